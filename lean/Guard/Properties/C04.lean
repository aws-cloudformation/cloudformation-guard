import Guard.Lemmas.Monad
import Guard.Lemmas.Status
/-
  C04 — verdicts do not depend on the order or repetition of clauses and rules.

  What is proved here (for lists of every length): every aggregation the evaluator performs is
  invariant under permutation and duplication of its inputs, and stopping a line at its first PASS
  (the evaluator's short-circuit) yields the same line status as evaluating every alternative, in
  any order.  Together: if the status of each clause is a function of (program, document, scope) —
  i.e. no clause changes what another one sees — the status of every rule and of the file is
  order- and repetition-independent.
  The premise "no clause changes what another one sees" is FALSE of the current code for
  key-capture variables (`Resources[ name | … ]`, `[name]`): `add_variable_capture_key` appends
  to a root-scope list on every evaluation.  That is known finding F-C04-1 (known_findings.json);
  for programs without key captures the premise is checked per case by the judge.
-/
namespace Guard.C04
open Guard

/-- the alternatives the evaluator actually evaluates: up to and including the first PASS -/
def evaluatedPrefix : List Status → List Status
  | [] => []
  | s :: rest => if s == .pass then [s] else s :: evaluatedPrefix rest

theorem evaluatedPrefix_cases : ∀ l, evaluatedPrefix l = l ∨ (.pass ∈ evaluatedPrefix l ∧ .pass ∈ l)
  | [] => .inl rfl
  | s :: rest => by
    unfold evaluatedPrefix
    split
    · next h => cases eq_of_beq h; exact .inr ⟨List.mem_cons_self, List.mem_cons_self⟩
    · rcases evaluatedPrefix_cases rest with e | ⟨h1, h2⟩
      · exact .inl (by rw [e])
      · exact .inr ⟨List.mem_cons_of_mem _ h1, List.mem_cons_of_mem _ h2⟩

/-- short-circuit is invisible: the status of a line computed from the evaluated prefix equals
    the status computed from all alternatives -/
theorem C04_short_circuit (sts : List Status) : lineStatus (evaluatedPrefix sts) = lineStatus sts := by
  rcases evaluatedPrefix_cases sts with e | ⟨h1, h2⟩
  · rw [e]
  · rw [(lineStatus_spec _).1.mpr h1, (lineStatus_spec _).1.mpr h2]

theorem C04_line_perm {l₁ l₂ : List Status} (h : l₁.Perm l₂) : lineStatus l₁ = lineStatus l₂ :=
  prio_congr .pass .fail fun _ => h.mem_iff

/-- permuting the alternatives of an `or` line: same line status, with the short-circuit -/
theorem C04_alternatives_perm {l₁ l₂ : List Status} (h : l₁.Perm l₂) :
    lineStatus (evaluatedPrefix l₁) = lineStatus (evaluatedPrefix l₂) := by
  rw [C04_short_circuit, C04_short_circuit]; exact C04_line_perm h

/-- permuting the lines of a rule / block / `when` body, or the rules of a file -/
theorem C04_lines_perm {l₁ l₂ : List Status} (h : l₁.Perm l₂) : bodyStatus l₁ = bodyStatus l₂ :=
  prio_congr .fail .pass fun _ => h.mem_iff

/-- repeating a line (or duplicating a rule under a new name: the file status) -/
theorem C04_line_dup (x : Status) (l : List Status) (h : x ∈ l) : bodyStatus (x :: l) = bodyStatus l :=
  prio_congr .fail .pass fun _ => mem_cons_iff_of_mem h

/-- repeating an alternative -/
theorem C04_alternative_dup (x : Status) (l : List Status) (h : x ∈ l) :
    lineStatus (evaluatedPrefix (x :: l)) = lineStatus (evaluatedPrefix l) := by
  rw [C04_short_circuit, C04_short_circuit]; exact prio_congr .pass .fail fun _ => mem_cons_iff_of_mem h

/-- values of a `some` block -/
theorem C04_some_block_perm {l₁ l₂ : List Status} (h : l₁.Perm l₂) : someStatus l₁ = someStatus l₂ :=
  C04_line_perm h

/-- a rule referenced by name has the status of its first non-SKIP definition however often it
    has been asked for: the memo returns what was stored -/
theorem C04_memo_returns_stored (name : Str) (s : Status) (m : List (Str × Status)) :
    alLookup name (alInsert name s m) = some s :=
  alLookup_alInsert_self name s m

example : evaluatedPrefix [.fail, .pass, .fail] = [.fail, .pass] := rfl

/-- **the evaluator does short-circuit exactly like `evaluatedPrefix`**: the statuses `evalAlternatives` returns for
    a line never contain a PASS before the last position, i.e. they are the evaluated prefix of themselves — for
    every line, program, state and fuel.  (With `C04_short_circuit`: the line status does not depend on where the
    evaluator stopped.) -/
theorem C04_evaluator_short_circuits (env : Env) : ∀ (l : List Clause) (fuel : Nat) (st st' : St) (sts : List Status),
    evalAlternatives env fuel l st = .ok (sts, st') → evaluatedPrefix sts = sts ∧ sts.length ≤ l.length := by
  suffices h : ∀ l fuel, Ret (fun sts => evaluatedPrefix sts = sts ∧ sts.length ≤ l.length) (evalAlternatives env fuel l) from
    fun l fuel st st' sts => h l fuel st sts st'
  intro l
  induction l with
  | nil => intro fuel; rw [evalAlternatives]; exact ret_pure ⟨rfl, Nat.le_refl _⟩
  | cons c rest ih =>
    intro fuel
    cases fuel with
    | zero => exact ret_fail fun _ _ => nofun
    | succ fuel =>
      rw [evalAlternatives]
      refine ret_after fun s => ?_
      split
      · next hs => exact ret_pure ⟨if_pos hs, Nat.le_add_left ..⟩
      · next hs =>
        exact ret_bind (ih fuel) fun more ⟨h1, h2⟩ => ret_pure ⟨by rw [evaluatedPrefix, if_neg hs, h1], Nat.succ_le_succ h2⟩

end Guard.C04
