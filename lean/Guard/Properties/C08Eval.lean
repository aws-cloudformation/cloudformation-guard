import Guard.Lemmas.NoPanic
/-
  C08 (evaluator part) — "every rule program accepted by the parser evaluated on every document … terminates
  without panic": the `unreachable!()` / `unwrap()` / indexing sites of the evaluator and of the comparison layer,
  as theorems about the model for EVERY program, document, environment, state and fuel.

  * `C08_evaluator_never_panics`: on a well-formed rules file (`RulesFile.wf`, the shape invariants of parser output,
    evaluated by the driver on every AST the harness sends: the `wf` field of the correspondence) an evaluation can
    only "panic" at two residue sites, neither of them an `unreachable!()`: `map.values.get(key).unwrap()` in the
    `keys` filter (guarded by the map representation invariant keys.len = values.len, which the model's `PV` does not
    carry) and the model-only float-oracle site.  In particular the scope-stack pattern matches, `resolver.root()`,
    `query[query_index - 1]`, `lhs_query[len - 1]`, `args[i]`, the unary/binary operator dispatch arms and the
    `ListIn` negation arms are never reached.
  * `C08_comparison_layer_never_panics`: `(CmpOperator, bool)::compare` never panics, for ANY two result sets.
  * termination is not part of these statements: the model is fuel-indexed and running out of fuel stands for
    unbounded recursion (known finding F-C08-1 is exactly such a case).
-/
namespace Guard.C08Eval
open Guard

/-- **no panic on parser output** (see the header) -/
theorem C08_evaluator_never_panics (env : Env) (fuel : Nat) (file : RulesFile) (doc : PV) (hw : file.wf = true)
    (s : PanicSite) (h : runFile env fuel file doc = .panic s) : s = .mapKeyMissing ∨ s = .floatOfInt := by
  unfold runFile at h
  split at h
  · next s0 st hev =>
    -- a run that ends leaves exactly one record, so the final match does not fail either
    obtain ⟨r, hr⟩ := runFile_never_panics_on_records env fuel file doc s0 st hev
    rw [hr] at h; cases h
  · cases h
  · next hev => cases h; exact ((w_evalRulesFile env fuel file fun _ => hw).pn _ (G_init file doc hw)).2 _ hev
  · cases h

/-- … in particular none of the `unreachable!()` arms, indexing sites or scope-stack matches -/
theorem C08_no_unreachable (env : Env) (fuel : Nat) (file : RulesFile) (doc : PV) (hw : file.wf = true) :
    runFile env fuel file doc ≠ .panic .other ∧ runFile env fuel file doc ≠ .panic .unaryOnBinary ∧
    runFile env fuel file doc ≠ .panic .filterFirst ∧ runFile env fuel file doc ≠ .panic .emptyQuery ∧
    runFile env fuel file doc ≠ .panic .functionArgIndex ∧ runFile env fuel file doc ≠ .panic .listInNotList ∧
    runFile env fuel file doc ≠ .panic .regexUnwrap ∧ runFile env fuel file doc ≠ .panic .matchValueUnreachable ∧
    runFile env fuel file doc ≠ .panic .clauseStatusSkip ∧ runFile env fuel file doc ≠ .panic .mapKeyFilterResult := by
  refine ⟨?_, ?_, ?_, ?_, ?_, ?_, ?_, ?_, ?_, ?_⟩ <;>
    (intro h; rcases C08_evaluator_never_panics env fuel file doc hw _ h with h' | h' <;> cases h')

/-- the comparison layer never panics: any operator, polarity, result sets, environment -/
theorem C08_comparison_layer_never_panics (env : Env) (op : CmpOp) (opNot : Bool) (lhs rhs : List QR) (s : PanicSite) :
    cmpCompare env op opNot lhs rhs ≠ .panic s :=
  fun h => (cmpCompare_np env op opNot lhs rhs).of_panic h

/-- `PartialEq for PathAwareValue` (used by `Vec::contains`) always answers (fix 6b03de4) -/
theorem C08_partial_eq_total (env : Env) (a b : PV) : looseEq env a b ≠ none := looseEq_ne_none env a b

/-- a unary operator's check never reaches the `(Eq | Gt | ..) => unreachable!()` arm -/
theorem C08_unary_dispatch (op : CmpOp) (hop : op.isUnary = true) (opNot inverse : Bool) (v : QR) (s : PanicSite) :
    unaryCheck op opNot inverse v ≠ .panic s := fun h => (unaryCheck_np op hop opNot inverse v).of_panic h

/-- a built-in function called with its arity can only hit the model-only float-oracle site -/
theorem C08_function_call_sites (env : Env) (name : FunctionName) (args : List (List QR)) (ha : args.length = name.arity)
    (s : PanicSite) (h : callFunction env name args = .panic s) : s = .floatOfInt :=
  (callFunction_arity ha).of_panic h

/-- the residue site `map.values.get(key).unwrap()`: in a map whose keys and values are aligned (what every loader
    builds) each of its keys is found - the lookup can only fail on a `PV` that no loader produces -/
theorem C08_map_lookup_total : ∀ (ks : List (Path × Str)) (vs : List PV), ks.length ≤ vs.length →
    ∀ p k, (p, k) ∈ ks → (PV.lookupKV ks vs k).isSome = true
  | [], _, _, p, k, h => by cases h
  | (p0, k0) :: ks, [], hl, _, _, _ => by simp at hl
  | (p0, k0) :: ks, v :: vs, hl, p, k, h => by
    unfold PV.lookupKV
    by_cases hk : k0 = k
    · simp [hk]
    · simp only [hk, ↓reduceIte]
      rcases List.mem_cons.mp h with h | h
      · cases h; exact absurd rfl hk
      · exact C08_map_lookup_total ks vs (by simpa using hl) p k h

/-- non-vacuity: a concrete rules file with a filter, a `keys` filter, a function call, a unary and a binary clause
    satisfies the hypothesis -/
example : (RulesFile.wf
    { lets := [.mk "v".toList (.func .count [.access [.key "a".toList, .allValues none] true])],
      rules := [{ name := "r".toList, conds := none, lets := [],
                  cnf := [[.access false [.key "a".toList, .filter none [[.access false [.key "b".toList] true .eq false (some (.value (.int Path.root 1))) none]]] true .empty true none none],
                          [.access false [.key "m".toList, .mapKeyFilter none .eq false (.value (.str Path.root "k".toList))] true .exists_ false none none]] }],
      prules := [] }) = true := by decide

/-- … and the predicate does reject what the parser never produces: a query that starts with a filter -/
example : (RulesFile.wf
    { lets := [], prules := [],
      rules := [{ name := "r".toList, conds := none, lets := [],
                  cnf := [[.access false [.filter none []] true .exists_ false none none]] }] }) = false := by decide

end Guard.C08Eval
