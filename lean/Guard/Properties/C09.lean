import Guard.Model.Report
import Guard.Lemmas.ConsEval
/-
  C09 — the structured report partitions the rules exactly as they were evaluated.
  Theorems about `fileReport` / `reportFailed` (the Lean mirror of `simplified_json_from_root` and
  `report_all_failed_clauses_for_rules`), for every record tree.
-/
namespace Guard.C09
open Guard

/-- the file record's children are the rule records (what `eval_rules_file` produces) -/
def rulesOnly (ch : List Rec) : Prop := ∀ r ∈ ch, ∃ n s m, r.kind = .ruleCheck n s m

theorem mem_namesWith (st : Status) (ch : List Rec) (n : Str) :
    n ∈ namesWith st ch ↔ ∃ r ∈ ch, ∃ m, r.kind = .ruleCheck n st m := by
  simp only [namesWith, List.mem_filterMap]
  refine exists_congr fun ⟨k, c⟩ => and_congr_right fun _ => ?_
  cases k <;> simp [Rec.kind, and_comm]

/-- over rule records the top-level entries of `not_compliant` are `Rule` entries, one per FAIL record, in order -/
theorem notCompliant_rules (ch : List Rec) (h : rulesOnly ch) :
    (reportFailedList ch).map CR.ruleName? = (namesWith .fail ch).map some := by
  induction ch with
  | nil => rfl
  | cons r rest ih =>
    obtain ⟨n, s, m, hk⟩ := h r List.mem_cons_self
    obtain ⟨k, c⟩ := r
    cases hk
    have ih := ih fun x hx => h x (List.mem_cons_of_mem _ hx)
    -- for a concrete status both sides compute: one more entry on each side, or none
    cases s with
    | fail => exact congrArg (some n :: ·) ih
    | _ => exact ih

theorem notCompliant_names (ch : List Rec) (h : rulesOnly ch) :
    (reportFailedList ch).filterMap CR.ruleName? = namesWith .fail ch := by
  have := congrArg (List.filterMap id) (notCompliant_rules ch h)
  simpa [List.filterMap_map] using this

theorem fileReport_fields (s : Status) (ch : List Rec) (h : rulesOnly ch) (rep : FileReport)
    (hrep : fileReport (.node (.fileCheck s) ch) = some rep) :
    rep.status = s ∧ rep.compliant = namesWith .pass ch ∧ rep.notApplicable = namesWith .skip ch ∧
    rep.notCompliant.filterMap CR.ruleName? = namesWith .fail ch := by
  cases hrep
  exact ⟨rfl, rfl, rfl, notCompliant_names ch h⟩

/-- **Partition**: every evaluated rule appears under the heading of its status. -/
theorem C09_partition (s : Status) (ch : List Rec) (h : rulesOnly ch) (rep : FileReport)
    (hrep : fileReport (.node (.fileCheck s) ch) = some rep) (n : Str) :
    (n ∈ rep.compliant ↔ ∃ r ∈ ch, ∃ m, r.kind = .ruleCheck n .pass m) ∧
    (n ∈ rep.notApplicable ↔ ∃ r ∈ ch, ∃ m, r.kind = .ruleCheck n .skip m) ∧
    (n ∈ rep.notCompliant.filterMap CR.ruleName? ↔ ∃ r ∈ ch, ∃ m, r.kind = .ruleCheck n .fail m) := by
  obtain ⟨_, hc, hna, hnc⟩ := fileReport_fields s ch h rep hrep
  rw [hc, hna, hnc]
  exact ⟨mem_namesWith _ _ _, mem_namesWith _ _ _, mem_namesWith _ _ _⟩

theorem namesWith_disjoint (ch : List Rec) (n : Str)
    (huniq : ∀ r₁ ∈ ch, ∀ r₂ ∈ ch, ∀ s₁ m₁ s₂ m₂, r₁.kind = .ruleCheck n s₁ m₁ → r₂.kind = .ruleCheck n s₂ m₂ → s₁ = s₂)
    {s₁ s₂ : Status} (hne : s₁ ≠ s₂) : ¬ (n ∈ namesWith s₁ ch ∧ n ∈ namesWith s₂ ch) := by
  rintro ⟨a, b⟩
  obtain ⟨r₁, h₁, m₁, k₁⟩ := (mem_namesWith _ _ _).mp a
  obtain ⟨r₂, h₂, m₂, k₂⟩ := (mem_namesWith _ _ _).mp b
  exact hne (huniq r₁ h₁ r₂ h₂ _ _ _ _ k₁ k₂)

/-- a rule name with ONE record is under exactly one heading (rule names distinct) -/
theorem C09_exactly_one (s : Status) (ch : List Rec) (h : rulesOnly ch) (rep : FileReport)
    (hrep : fileReport (.node (.fileCheck s) ch) = some rep) (n : Str)
    (huniq : ∀ r₁ ∈ ch, ∀ r₂ ∈ ch, ∀ s₁ m₁ s₂ m₂, r₁.kind = .ruleCheck n s₁ m₁ → r₂.kind = .ruleCheck n s₂ m₂ → s₁ = s₂) :
    ¬ (n ∈ rep.compliant ∧ n ∈ rep.notApplicable) ∧
    ¬ (n ∈ rep.compliant ∧ n ∈ rep.notCompliant.filterMap CR.ruleName?) ∧
    ¬ (n ∈ rep.notApplicable ∧ n ∈ rep.notCompliant.filterMap CR.ruleName?) := by
  obtain ⟨_, hc, hna, hnc⟩ := fileReport_fields s ch h rep hrep
  rw [hc, hna, hnc]
  exact ⟨namesWith_disjoint ch n huniq nofun, namesWith_disjoint ch n huniq nofun, namesWith_disjoint ch n huniq nofun⟩

theorem status_of_ruleCheck {r : Rec} {n s m} (hk : r.kind = .ruleCheck n s m) : r.status = s := by
  obtain ⟨k, c⟩ := r; cases hk; rfl

theorem namesWith_eq_nil (ch : List Rec) (h : rulesOnly ch) (st : Status) :
    namesWith st ch = [] ↔ st ∉ ch.map Rec.status := by
  simp only [List.eq_nil_iff_forall_not_mem, mem_namesWith, List.mem_map]
  constructor
  · rintro h0 ⟨r, hr, hs⟩
    obtain ⟨n, s', m, hk⟩ := h r hr
    exact h0 n ⟨r, hr, m, (status_of_ruleCheck hk).symm.trans hs ▸ hk⟩
  · rintro h0 n ⟨r, hr, m, hk⟩
    exact h0 ⟨r, hr, status_of_ruleCheck hk⟩

/-- **File status**: on a consistent tree (the file status is the aggregation of the rule
    statuses, C02) the report's status is FAIL iff `not_compliant` is non-empty, PASS iff it is
    empty and `compliant` is not, else SKIP. -/
theorem C09_status (s : Status) (ch : List Rec) (h : rulesOnly ch) (rep : FileReport)
    (hrep : fileReport (.node (.fileCheck s) ch) = some rep)
    (hcons : s = bodyStatus (ch.map Rec.status)) :
    (rep.status = .fail ↔ rep.notCompliant ≠ []) ∧
    (rep.status = .pass ↔ rep.notCompliant = [] ∧ rep.compliant ≠ []) ∧
    (rep.status = .skip ↔ rep.notCompliant = [] ∧ rep.compliant = []) := by
  cases hrep
  have hf : reportFailedList ch = [] ↔ .fail ∉ ch.map Rec.status := by
    rw [← namesWith_eq_nil ch h, ← List.map_eq_nil_iff (f := CR.ruleName?), notCompliant_rules ch h,
      List.map_eq_nil_iff]
  have hp := namesWith_eq_nil ch h .pass
  obtain ⟨b1, b2, b3⟩ := bodyStatus_spec (ch.map Rec.status)
  rw [hcons, b1, b2, b3]
  simp only [Ne, hf, hp, Decidable.not_not, and_self]

theorem and_eq_bodyStatus (a b : Status) : a.and b = bodyStatus [a, b] := by
  cases a <;> cases b <;> rfl

/-- **`combine`** is union of the three sets and `Status::and`, which is the two-element body
    aggregation, and the table extracted from the source. -/
theorem C09_combine (a b : FileReport) :
    (a.combine b).compliant = a.compliant ++ b.compliant ∧
    (a.combine b).notApplicable = a.notApplicable ++ b.notApplicable ∧
    (a.combine b).notCompliant = a.notCompliant ++ b.notCompliant ∧
    (a.combine b).status = bodyStatus [a.status, b.status] :=
  ⟨rfl, rfl, rfl, and_eq_bodyStatus _ _⟩

def statusOfString : String → Option Status
  | "PASS" => some .pass | "FAIL" => some .fail | "SKIP" => some .skip | _ => none

def rowOk (row : String × String × String) : Bool :=
  match statusOfString row.1, statusOfString row.2.1, statusOfString row.2.2 with
  | some a, some b, some c => Status.and a b == c
  | _, _, _ => false

/-- the model's `Status.and` is the table GENERATED from rules/mod.rs (all nine rows) -/
theorem C09_status_and_is_source_table :
    Gen.statusAnd.all rowOk = true ∧ Gen.statusAnd.length = 9 ∧
    (Gen.statusAnd.map fun r => (r.1, r.2.1)).Nodup := by
  decide

/-- starting from the empty report, combining adds nothing but the reports themselves -/
theorem C09_combine_empty (a : FileReport) :
    (FileReport.empty.combine a).status = a.status ∧ (FileReport.empty.combine a).compliant = a.compliant ∧
    (FileReport.empty.combine a).notCompliant = a.notCompliant :=
  ⟨rfl, rfl, rfl⟩

/-! ### attribution: every listed check is a check that FAILed, under the rule it belongs to -/

mutual
/-- all leaf checks of a report entry -/
def leaves : CR → List ClauseCheck
  | .rule _ _ cs => leavesList cs
  | .block (some c) => [c]
  | .block none => []
  | .disjunctions cs => leavesList cs
  | .clause c => [c]
def leavesList : List CR → List ClauseCheck
  | [] => []
  | c :: cs => leaves c ++ leavesList cs
end

mutual
/-- all failed value checks recorded anywhere in a subtree -/
def failedChecks : Rec → List ClauseCheck
  | .node k ch =>
    (match k with
     | .clauseValueCheck .success => []
     | .clauseValueCheck c => [c]
     | _ => []) ++ failedChecksList ch
def failedChecksList : List Rec → List ClauseCheck
  | [] => []
  | r :: rs => failedChecks r ++ failedChecksList rs
end

/-- induction along `reportFailed`: a record reports nothing (`quiet`), what its children report (`sub`), or one entry
    (`block`, `leaf`), which may hold what its children report (`disj`, `rule`); `nil` and `cons` are `reportFailedList` -/
theorem reportFailed_induct {P : Rec → List CR → Prop} {Q : List Rec → List CR → Prop}
    (nil : Q [] []) (cons : ∀ {r rs a b}, P r a → Q rs b → Q (r :: rs) (a ++ b))
    (quiet : ∀ k ch, P (.node k ch) []) (sub : ∀ k {ch l}, Q ch l → P (.node k ch) l)
    (block : ∀ k ch, P (.node k ch) [.block none])
    (disj : ∀ k {ch l}, Q ch l → P (.node k ch) [.disjunctions l])
    (rule : ∀ n m {ch l}, Q ch l → P (.node (.ruleCheck n .fail m) ch) [.rule n m l])
    (leaf : ∀ c ch, c ≠ .success →
      P (.node (.clauseValueCheck c) ch) [.block (some c)] ∧ P (.node (.clauseValueCheck c) ch) [.clause c]) :
    (∀ r, P r (reportFailed r)) ∧ ∀ rs, Q rs (reportFailedList rs) := by
  have node : ∀ k ch, Q ch (reportFailedList ch) → P (.node k ch) (reportFailed (.node k ch)) := by
    intro k ch ih
    unfold reportFailed
    split
    · exact rule _ _ ih
    · split
      · exact block _ _
      · exact sub _ ih
    · exact disj _ ih
    · exact sub _ ih
    · exact sub _ ih
    · exact sub _ ih
    · exact sub _ ih
    · split
      · exact (leaf (.missingBlockValue _) _ nofun).1
      · split
        · next h => exact (leaf _ _ (by rintro rfl; cases h)).2
        · exact quiet _ _
    · exact quiet _ _
  exact ⟨Rec.rec (motive_2 := fun rs => Q rs (reportFailedList rs)) node nil fun _ _ => cons,
    Rec.rec_1 (motive_1 := fun r => P r (reportFailed r)) node nil fun _ _ => cons⟩

theorem leavesList_append (a b : List CR) : leavesList (a ++ b) = leavesList a ++ leavesList b := by
  induction a with
  | nil => rfl
  | cons x xs ih => simp only [List.cons_append, leavesList, ih, List.append_assoc]

theorem leavesList_singleton (e : CR) : leavesList [e] = leaves e := List.append_nil _

theorem mem_failedChecks_self {c : ClauseCheck} (hc : c ≠ .success) (ch : List Rec) :
    c ∈ failedChecks (.node (.clauseValueCheck c) ch) := by
  unfold failedChecks
  split
  · next h => cases h; exact absurd rfl hc
  · next h => cases h; exact List.mem_cons_self
  · next h => exact (h _ rfl).elim

/-- **Every check listed is one that evaluated to FAIL** (and carries that check's data, custom
    message included, because the entry IS the recorded check), in the order of the records and no
    more often than recorded. -/
theorem leaves_sublist : (∀ r, (leavesList (reportFailed r)).Sublist (failedChecks r)) ∧
    ∀ rs, (leavesList (reportFailedList rs)).Sublist (failedChecksList rs) := by
  refine reportFailed_induct (P := fun r l => (leavesList l).Sublist (failedChecks r))
    (Q := fun rs l => (leavesList l).Sublist (failedChecksList rs)) ?nil ?cons ?quiet ?sub ?block ?disj ?rule ?leaf
  case nil => exact List.nil_sublist _
  case cons => intro _ _ _ _ h1 h2; rw [leavesList_append]; exact h1.append h2
  case quiet => exact fun _ _ => List.nil_sublist _
  case sub => exact fun _ _ _ h => h.trans (List.sublist_append_right _ _)
  case block => exact fun _ _ => List.nil_sublist _
  case disj => intro _ _ _ h; rw [leavesList_singleton]; exact h.trans (List.sublist_append_right _ _)
  case rule => intro _ _ _ _ h; rw [leavesList_singleton]; exact h.trans (List.sublist_append_right _ _)
  case leaf =>
    intro c ch hc
    have := List.singleton_sublist.mpr (mem_failedChecks_self hc ch)
    exact ⟨this, this⟩

/-- **No failing check is attributed to a rule that passed or was skipped; every FAIL rule is
    listed even when no individual check can be shown**: the entry for a rule exists iff its
    record is FAIL, and its checks come from that rule's own records. -/
theorem C09_attribution (name : Str) (s : Status) (msg : Option Str) (ch : List Rec) :
    (s ≠ .fail → reportFailed (.node (.ruleCheck name s msg) ch) = []) ∧
    (s = .fail → ∃ cs, reportFailed (.node (.ruleCheck name s msg) ch) = [.rule name msg cs] ∧
        ∀ c ∈ leavesList cs, c ∈ failedChecksList ch) := by
  cases s with
  | fail => exact ⟨fun h => absurd rfl h, fun _ => ⟨_, rfl, fun _ hc => (leaves_sublist.2 ch).subset hc⟩⟩
  | _ => exact ⟨fun _ => rfl, nofun⟩

-- Non-vacuity
example : rulesOnly [.node (.ruleCheck "a".toList .pass none) [], .node (.ruleCheck "b".toList .fail none) []] := by
  intro r hr; simp at hr; rcases hr with rfl | rfl <;> exact ⟨_, _, _, rfl⟩

/-- **what the report partitions is what was evaluated**: the per-rule statuses read off the tree of a successful
    evaluation are exactly, in file order, (name, status returned by evaluating that rule) for every rule of the
    file — none missing, none invented, none attributed to another rule. -/
theorem C09_rule_statuses_are_evaluations (env : Env) (fuel : Nat) (file : RulesFile) (doc : PV) (s : Status) (t : Rec)
    (h : runFile env fuel file doc = .ok (s, t)) :
    ∃ sts : List Status, sts.length = file.rules.length ∧
      ruleStatuses t = (file.rules.zip sts).map fun p => (p.1.name, p.2) := by
  obtain ⟨_, sts, hl, _, hc⟩ := runFile_top env fuel file doc s t h
  refine ⟨sts, hl, ?_⟩
  -- `ruleStatuses` only looks at the kinds of the children, which `runFile_top` gives
  show t.children.filterMap ((fun k => match k with | .ruleCheck n s _ => some (n, s) | _ => none) ∘ Rec.kind) = _
  rw [← List.filterMap_map, hc, List.filterMap_map]
  exact congrFun List.filterMap_eq_map' _

/-! ### nested rule entries (references to named / parameterised rules that failed) carry the record's message -/

mutual
/-- every `Rule` entry of a report, at any depth, as (name, custom message) -/
def ruleEntries : CR → List (Str × Option Str)
  | .rule n m cs => (n, m) :: ruleEntriesList cs
  | .block _ => []
  | .disjunctions cs => ruleEntriesList cs
  | .clause _ => []
def ruleEntriesList : List CR → List (Str × Option Str)
  | [] => []
  | c :: cs => ruleEntries c ++ ruleEntriesList cs
end

mutual
/-- every FAIL rule record of a tree, at any depth, as (name, recorded message) -/
def failedRuleRecs : Rec → List (Str × Option Str)
  | .node k ch =>
    (match k with
     | .ruleCheck n .fail m => [(n, m)]
     | _ => []) ++ failedRuleRecsList ch
def failedRuleRecsList : List Rec → List (Str × Option Str)
  | [] => []
  | r :: rs => failedRuleRecs r ++ failedRuleRecsList rs
end

theorem ruleEntriesList_append (a b : List CR) : ruleEntriesList (a ++ b) = ruleEntriesList a ++ ruleEntriesList b := by
  induction a with
  | nil => rfl
  | cons x xs ih => simp only [List.cons_append, ruleEntriesList, ih, List.append_assoc]

theorem ruleEntriesList_singleton (e : CR) : ruleEntriesList [e] = ruleEntries e := List.append_nil _

theorem ruleEntries_sublist : (∀ r, (ruleEntriesList (reportFailed r)).Sublist (failedRuleRecs r)) ∧
    ∀ rs, (ruleEntriesList (reportFailedList rs)).Sublist (failedRuleRecsList rs) := by
  refine reportFailed_induct (P := fun r l => (ruleEntriesList l).Sublist (failedRuleRecs r))
    (Q := fun rs l => (ruleEntriesList l).Sublist (failedRuleRecsList rs)) ?nil ?cons ?quiet ?sub ?block ?disj ?rule ?leaf
  case nil => exact List.nil_sublist _
  case cons => intro _ _ _ _ h1 h2; rw [ruleEntriesList_append]; exact h1.append h2
  case quiet => exact fun _ _ => List.nil_sublist _
  case sub => exact fun _ _ _ h => h.trans (List.sublist_append_right _ _)
  case block => exact fun _ _ => List.nil_sublist _
  case disj => intro _ _ _ h; rw [ruleEntriesList_singleton]; exact h.trans (List.sublist_append_right _ _)
  case rule => intro _ _ _ _ h; rw [ruleEntriesList_singleton]; exact h.cons_cons _
  case leaf => exact fun _ _ _ => ⟨List.nil_sublist _, List.nil_sublist _⟩

theorem ruleEntries_sub (r : Rec) : ∀ e ∈ ruleEntriesList (reportFailed r), e ∈ failedRuleRecs r :=
  fun _ he => (ruleEntries_sublist.1 r).subset he

/-- **every `Rule` entry of the report, nested ones included, is a rule record that FAILed and carries the message
    recorded with it** (for a failing call of a parameterised rule that is the custom message written after the call) -/
theorem C09_rule_entries_carry_recorded_message (s : Status) (ch : List Rec) (rep : FileReport)
    (h : fileReport (.node (.fileCheck s) ch) = some rep) :
    ∀ e ∈ ruleEntriesList rep.notCompliant, e ∈ failedRuleRecsList ch := by
  cases h
  exact fun _ he => (ruleEntries_sublist.2 ch).subset he

-- Non-vacuity: a failing rule whose only child is a failing call record with a message
example : ruleEntriesList (reportFailedList
    [.node (.ruleCheck "caller".toList .fail none) [.node (.ruleCheck "callee".toList .fail (some "why".toList)) []]]) =
    [("caller".toList, none), ("callee".toList, some "why".toList)] :=
  rfl

end Guard.C09
