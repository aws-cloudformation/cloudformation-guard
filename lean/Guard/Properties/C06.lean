import Guard.Model.Cli
/-
  C06 — exit codes of validate and test faithfully encode the outcome.
  Theorems about the exit-code folds of `Guard.Model.Cli`, for ANY number of rules files, data
  files and test cases; the numeric codes come from the generated `Guard.Gen.ExitCodes`
  (so a changed constant in /repo breaks `C06_codes`).

  The idea: every exit code has a witness (`validateExit_cases`, `genericFold_cases`): 0 only if nothing
  went wrong, 5 only with an unparsed file, 19 only with a FAIL, `Err` only with an evaluation error or an
  unreadable file. The conditions exclude one another under the hypotheses of each stated iff, so each of
  them is read off the case list.
-/
namespace Guard.C06
open Guard Guard.Cli

/-- the documented codes: 0 success, 19 failure, 5 parse error, 255 error, test: 1 error / 7 failure -/
theorem C06_codes :
    SUCCESS = 0 ∧ FAILURE = 19 ∧ PARSE_ERROR = 5 ∧ Gen.MAIN_ERROR_EXIT = 255 ∧ T_OK = 0 ∧ T_ERR = 1 ∧ T_FAIL = 7 := by
  decide

def allParsed (fs : List RuleFile) : Prop := ∀ f ∈ fs, f.parsed = true
def noFail (fs : List RuleFile) : Prop := ∀ f ∈ fs, f.hasFail = false
def noEvalError (fs : List RuleFile) : Prop := ∀ f ∈ fs, f.hasEvalError = false

theorem exists_mem_cons_of {α} {p : α → Prop} (a : α) {l : List α} : (∃ x ∈ l, p x) → ∃ x ∈ a :: l, p x :=
  fun ⟨x, h, px⟩ => ⟨x, List.mem_cons_of_mem _ h, px⟩

theorem plainFold_cons (c : Int) (f : RuleFile) (rest : List RuleFile) :
    f.hasEvalError = true ∧ plainFold c (f :: rest) = .error ∨
    ∃ c', plainFold c (f :: rest) = plainFold c' rest ∧
      (c' = c ∧ f.parsed = true ∧ f.hasFail = false ∨ c' = PARSE_ERROR ∧ f.parsed = false ∨
        c' = FAILURE ∧ f.hasFail = true) := by
  cases f with
  | unreadable => exact .inr ⟨_, rfl, .inr (.inl ⟨rfl, rfl⟩)⟩
  | parseError => exact .inr ⟨_, rfl, .inr (.inl ⟨rfl, rfl⟩)⟩
  | empty => exact .inr ⟨_, rfl, .inl ⟨rfl, rfl, rfl⟩⟩
  | evaluated cols =>
    by_cases he : (RuleFile.evaluated cols).hasEvalError = true
    · exact .inl ⟨he, if_pos he⟩
    by_cases hf : cols.any (· == some .fail) = true
    · exact .inr ⟨FAILURE, (if_neg he).trans (if_pos hf), .inr (.inr ⟨rfl, hf⟩)⟩
    · exact .inr ⟨c, (if_neg he).trans (if_neg hf), .inl ⟨rfl, rfl, eq_false_of_ne_true hf⟩⟩

theorem plainFold_cases (c : Int) (fs : List RuleFile) :
    (plainFold c fs = .error ∧ ∃ f ∈ fs, f.hasEvalError = true) ∨
    (plainFold c fs = .code c ∧ allParsed fs ∧ noFail fs) ∨
    (plainFold c fs = .code PARSE_ERROR ∧ ∃ f ∈ fs, f.parsed = false) ∨
    (plainFold c fs = .code FAILURE ∧ ∃ f ∈ fs, f.hasFail = true) := by
  induction fs generalizing c with
  | nil => exact .inr (.inl ⟨rfl, (fun _ h => nomatch h), (fun _ h => nomatch h)⟩)
  | cons f rest ih =>
    rcases plainFold_cons c f rest with ⟨he, e⟩ | ⟨c', e, hc'⟩ <;> rw [e]
    · exact .inl ⟨rfl, f, List.mem_cons_self, he⟩
    -- what `ih c'` says of `rest` carries over to `f :: rest`; only "no file of `rest` has a code" looks at `f`
    rcases ih c' with ⟨h, x⟩ | ⟨h, hp, hf⟩ | ⟨h, x⟩ | ⟨h, x⟩
    · exact .inl ⟨h, exists_mem_cons_of f x⟩
    · rcases hc' with ⟨rfl, p, q⟩ | ⟨rfl, p⟩ | ⟨rfl, p⟩
      · exact .inr (.inl ⟨h, List.forall_mem_cons.mpr ⟨p, hp⟩, List.forall_mem_cons.mpr ⟨q, hf⟩⟩)
      · exact .inr (.inr (.inl ⟨h, f, List.mem_cons_self, p⟩))
      · exact .inr (.inr (.inr ⟨h, f, List.mem_cons_self, p⟩))
    · exact .inr (.inr (.inl ⟨h, exists_mem_cons_of f x⟩))
    · exact .inr (.inr (.inr ⟨h, exists_mem_cons_of f x⟩))

theorem parsed_false_iff (f : RuleFile) : f.parsed = false ↔ f.isUnreadable = true ∨ f.isParseError = true := by
  cases f <;> simp [RuleFile.parsed, RuleFile.isUnreadable, RuleFile.isParseError]

theorem allParsed_iff (fs : List RuleFile) :
    allParsed fs ↔ fs.any RuleFile.isUnreadable = false ∧ fs.any RuleFile.isParseError = false := by
  simp only [List.any_eq_false, allParsed, ← forall_and]
  refine forall_congr' fun f => imp_congr_right fun _ => ?_
  simp [RuleFile.parsed]

theorem noFail_iff (fs : List RuleFile) : noFail fs ↔ fs.any RuleFile.hasFail = false := by
  simp [noFail]

/-- `strict` says whether an unreadable file is an `Err` (it is not in plain mode). -/
abbrev Witnessed (strict : Prop) (fs : List RuleFile) (x : Exec) : Prop :=
  (x = .error ∧ ((∃ f ∈ fs, f.hasEvalError = true) ∨ strict ∧ fs.any RuleFile.isUnreadable = true)) ∨
  (x = .code 0 ∧ allParsed fs ∧ noFail fs) ∨
  (x = .code 5 ∧ ∃ f ∈ fs, f.parsed = false) ∨
  (x = .code 19 ∧ ∃ f ∈ fs, f.hasFail = true)

theorem exists_unparsed {fs : List RuleFile} (h : fs.any RuleFile.isParseError = true) : ∃ f ∈ fs, f.parsed = false :=
  (List.any_eq_true.mp h).imp fun f hf => ⟨hf.1, (parsed_false_iff f).mpr (.inr hf.2)⟩

theorem structuredExit_cases {strict : Prop} (hs : strict) (fs : List RuleFile) : Witnessed strict fs (structuredExit fs) := by
  by_cases hu : fs.any RuleFile.isUnreadable = true
  · exact .inl ⟨if_pos hu, .inr ⟨hs, hu⟩⟩
  by_cases he : fs.any RuleFile.hasEvalError = true
  · exact .inl ⟨(if_neg hu).trans (if_pos he), .inl (List.any_eq_true.mp he)⟩
  have e {x : Exec} (h : _ = x) : structuredExit fs = x := (if_neg hu).trans ((if_neg he).trans h)
  by_cases hf : fs.any RuleFile.hasFail = true
  · exact .inr (.inr (.inr ⟨e (if_pos hf), List.any_eq_true.mp hf⟩))
  by_cases hp : fs.any RuleFile.isParseError = true
  · exact .inr (.inr (.inl ⟨e ((if_neg hf).trans (if_pos hp)), exists_unparsed hp⟩))
  · exact .inr (.inl ⟨e ((if_neg hf).trans (if_neg hp)),
      (allParsed_iff fs).mpr ⟨eq_false_of_ne_true hu, eq_false_of_ne_true hp⟩,
      (noFail_iff fs).mpr (eq_false_of_ne_true hf)⟩)

/-- junit differs from structured only where a parse error and a FAIL meet: it keeps the 5 -/
theorem junit_structured (fs : List RuleFile) : junitExit fs = structuredExit fs ∨
    junitExit fs = .code PARSE_ERROR ∧ fs.any RuleFile.isParseError = true := by
  unfold junitExit structuredExit
  cases fs.any RuleFile.isUnreadable <;> cases fs.any RuleFile.hasEvalError <;>
    cases fs.any RuleFile.isParseError <;> cases fs.any RuleFile.hasFail <;> decide

theorem validateExit_cases (m : Mode) (fs : List RuleFile) : Witnessed (m ≠ .plain) fs (validateExit m fs) := by
  cases m with
  | plain => exact (plainFold_cases SUCCESS fs).imp_left (.imp_right .inl)
  | structured => exact structuredExit_cases nofun fs
  | junit =>
    rcases junit_structured fs with e | ⟨e, hp⟩
    · exact (e ▸ structuredExit_cases nofun fs : Witnessed (Mode.junit ≠ .plain) fs (junitExit fs))
    · exact .inr (.inr (.inl ⟨e, exists_unparsed hp⟩))

theorem validateExit_unreadable {m : Mode} (hm : m ≠ .plain) {fs : List RuleFile}
    (h : fs.any RuleFile.isUnreadable = true) : validateExit m fs = .error := by
  cases m with
  | plain => exact absurd rfl hm
  | structured => exact if_pos h
  | junit => exact if_pos h

/-! ### the iff's of the property, read off `validateExit_cases` -/

theorem excl {α} {p : α → Bool} {l : List α} {b : Bool} {P : Prop} (w : ∃ x ∈ l, p x = b)
    (h : ∀ x ∈ l, p x = !b) : P := by
  obtain ⟨x, hx, e⟩ := w
  have := h x hx
  rw [e] at this
  cases b <;> cases this

theorem validate_zero (m : Mode) (fs : List RuleFile) (he : noEvalError fs) :
    validateExit m fs = .code 0 ↔ allParsed fs ∧ noFail fs := by
  rcases validateExit_cases m fs with ⟨h, w | ⟨-, w⟩⟩ | ⟨h, hc⟩ | ⟨h, w⟩ | ⟨h, w⟩ <;> rw [h]
  · exact excl w he
  · exact ⟨nofun, fun hc => absurd w (ne_true_of_eq_false ((allParsed_iff fs).mp hc.1).1)⟩
  · exact ⟨fun _ => hc, fun _ => rfl⟩
  · exact ⟨fun h0 => absurd h0 (by decide), fun hc => excl w hc.1⟩
  · exact ⟨fun h0 => absurd h0 (by decide), fun hc => excl w hc.2⟩

theorem validate_fail (m : Mode) (fs : List RuleFile) (he : noEvalError fs) (hp : allParsed fs)
    (hf : ∃ f ∈ fs, f.hasFail = true) : validateExit m fs = .code 19 := by
  rcases validateExit_cases m fs with ⟨-, w | ⟨-, w⟩⟩ | ⟨-, -, hn⟩ | ⟨-, w⟩ | ⟨h, -⟩
  · exact excl w he
  · exact absurd w (ne_true_of_eq_false ((allParsed_iff fs).mp hp).1)
  · exact excl hf hn
  · exact excl w hp
  · exact h

theorem validate_parse (m : Mode) (fs : List RuleFile) (he : noEvalError fs) (hf : noFail fs)
    (hu : m ≠ .plain → fs.any RuleFile.isUnreadable = false) (hp : ∃ f ∈ fs, f.parsed = false) :
    validateExit m fs = .code 5 := by
  rcases validateExit_cases m fs with ⟨-, w | ⟨hm, w⟩⟩ | ⟨-, hp', -⟩ | ⟨h, -⟩ | ⟨-, w⟩
  · exact excl w he
  · exact absurd w (ne_true_of_eq_false (hu hm))
  · exact excl hp hp'
  · exact h
  · exact excl w hf

/-- **validate exits 0 iff every rules file parsed and no (rules file, data file) evaluation was
    FAIL** (and nothing raised an evaluation error) — plain mode. -/
theorem C06_validate_zero_plain (fs : List RuleFile) (he : noEvalError fs) :
    validateExit .plain fs = .code 0 ↔ allParsed fs ∧ noFail fs :=
  validate_zero _ fs he

/-- all rules files parse and at least one evaluation is FAIL ⇒ 19 (plain) -/
theorem C06_validate_fail_plain (fs : List RuleFile) (he : noEvalError fs) (hp : allParsed fs)
    (hf : ∃ f ∈ fs, f.hasFail = true) : validateExit .plain fs = .code 19 :=
  validate_fail _ fs he hp hf

/-- a rules file fails to parse (or cannot be read) and nothing FAILs ⇒ 5 (plain) -/
theorem C06_validate_parse_plain (fs : List RuleFile) (he : noEvalError fs) (hf : noFail fs)
    (hp : ∃ f ∈ fs, f.parsed = false) : validateExit .plain fs = .code 5 :=
  validate_parse _ fs he hf (fun h => absurd rfl h) hp

/-- structured and junit: 0 iff all parsed and nothing FAILed (no evaluation error) -/
theorem C06_validate_zero_structured (m : Mode) (hm : m ≠ .plain) (fs : List RuleFile) (he : noEvalError fs) :
    validateExit m fs = .code 0 ↔ allParsed fs ∧ noFail fs := by
  exact (fun _ => validate_zero m fs he) hm  -- `hm` is not needed

/-- structured / junit: all parse and something FAILs ⇒ 19; a parse error and nothing FAILs ⇒ 5;
    an unreadable rules file ⇒ `Err` -/
theorem C06_validate_fail_parse_structured (m : Mode) (hm : m ≠ .plain) (fs : List RuleFile) (he : noEvalError fs) :
    (allParsed fs → (∃ f ∈ fs, f.hasFail = true) → validateExit m fs = .code 19) ∧
    (fs.any RuleFile.isUnreadable = false → fs.any RuleFile.isParseError = true → noFail fs → validateExit m fs = .code 5) ∧
    (fs.any RuleFile.isUnreadable = true → validateExit m fs = .error) :=
  ⟨validate_fail m fs he, fun hu hp hf => validate_parse m fs he hf (fun _ => hu) (exists_unparsed hp),
    validateExit_unreadable hm⟩

/-- an `Err` (missing path, malformed data, evaluation error, unreadable rules file in structured
    mode) leaves the process with a code that is neither 0 nor 19 -/
theorem C06_error_exit : mainExit .error ≠ 0 ∧ mainExit .error ≠ 19 := by decide

/-- whatever happens, `validate` ends in one of the documented codes -/
theorem C06_validate_codes (m : Mode) (fs : List RuleFile) :
    mainExit (validateExit m fs) ∈ [0, 5, 19, 255] := by
  rcases validateExit_cases m fs with ⟨h, -⟩ | ⟨h, -⟩ | ⟨h, -⟩ | ⟨h, -⟩ <;> rw [h] <;> decide

theorem genericFold_cons (c : Int) (f : TestFile) (rest : List TestFile) :
    ∃ c', genericFold c (f :: rest) = genericFold c' rest ∧
      (c' = c ∧ (∃ ms, f = .specs ms ∧ ms.any id = false) ∨ c' = T_ERR ∧ f = .unparsable ∨
        c' = T_FAIL ∧ ∃ ms, f = .specs ms ∧ ms.any id = true) := by
  cases f with
  | unparsable => exact ⟨_, rfl, .inr (.inl ⟨rfl, rfl⟩)⟩
  | specs ms =>
    by_cases hm : ms.any id = true
    · exact ⟨T_FAIL, congrArg (genericFold · rest) (if_pos hm), .inr (.inr ⟨rfl, ms, rfl, hm⟩)⟩
    · exact ⟨c, congrArg (genericFold · rest) (if_neg hm), .inl ⟨rfl, ms, rfl, eq_false_of_ne_true hm⟩⟩

theorem genericFold_cases (c : Int) (fs : List TestFile) :
    (genericFold c fs = c ∧ ∀ f ∈ fs, ∃ ms, f = .specs ms ∧ ms.any id = false) ∨
    (genericFold c fs = T_ERR ∧ .unparsable ∈ fs) ∨
    (genericFold c fs = T_FAIL ∧ ∃ ms, .specs ms ∈ fs ∧ ms.any id = true) := by
  induction fs generalizing c with
  | nil => exact .inl ⟨rfl, fun _ h => nomatch h⟩
  | cons f rest ih =>
    obtain ⟨c', e, hc'⟩ := genericFold_cons c f rest
    rw [e]
    rcases ih c' with ⟨h, hc⟩ | ⟨h, x⟩ | ⟨h, ms, x, hm⟩
    · rcases hc' with ⟨rfl, p⟩ | ⟨rfl, rfl⟩ | ⟨rfl, ms, rfl, hm⟩
      · exact .inl ⟨h, List.forall_mem_cons.mpr ⟨p, hc⟩⟩
      · exact .inr (.inl ⟨h, List.mem_cons_self⟩)
      · exact .inr (.inr ⟨h, ms, List.mem_cons_self, hm⟩)
    · exact .inr (.inl ⟨h, List.mem_cons_of_mem _ x⟩)
    · exact .inr (.inr ⟨h, ms, List.mem_cons_of_mem _ x, hm⟩)

/-- `test`, single rules file, plain: 0 iff rules and every test file parse and no test case has a
    mismatching expectation; 7 if everything parses and some case mismatches; never 0 otherwise -/
theorem C06_test_plain (fs : List TestFile) :
    (testSinglePlain (.ok fs) = 0 ↔ ∀ f ∈ fs, ∃ ms, f = .specs ms ∧ ms.any id = false) ∧
    ((∀ f ∈ fs, ∃ ms, f = .specs ms) → (∃ f ∈ fs, ∃ ms, f = .specs ms ∧ ms.any id = true) →
        testSinglePlain (.ok fs) = 7) ∧
    testSinglePlain .bad ≠ 0 := by
  have excl : ∀ {ms}, TestFile.specs ms ∈ fs → ms.any id = true →
      ¬ ∀ f ∈ fs, ∃ ms, f = .specs ms ∧ ms.any id = false := fun x hm hc => by
    obtain ⟨_, e, hm'⟩ := hc _ x
    cases e; exact absurd hm (ne_true_of_eq_false hm')
  refine ⟨?_, fun hall ⟨_, hf, ms, e, hm⟩ => ?_, by decide⟩ <;>
    rcases genericFold_cases T_OK fs with ⟨h, hc⟩ | ⟨h, x⟩ | ⟨h, ms', x, hm'⟩
  · exact ⟨fun _ => hc, fun _ => h⟩
  · exact ⟨fun h0 => absurd (h.symm.trans h0) (by decide), fun hc => nomatch hc _ x⟩
  · exact ⟨fun h0 => absurd (h.symm.trans h0) (by decide), fun hc => absurd hc (excl x hm')⟩
  · exact absurd hc (excl (e ▸ hf) hm)
  · exact nomatch hall _ x
  · exact h

/-- merging per-file codes: 1 (error) is sticky over 7 (failure) and 0 is the identity -/
theorem C06_merge_codes (cur code : Int) (h1 : cur ∈ [T_OK, T_ERR, T_FAIL]) (h2 : code ∈ [T_OK, T_ERR, T_FAIL]) :
    (mergeTestCode cur code = T_OK ↔ cur = T_OK ∧ code = T_OK) ∧
    (mergeTestCode cur code = T_ERR ↔ cur = T_ERR ∨ code = T_ERR) := by
  simp only [List.mem_cons, List.mem_nil_iff, or_false] at h1 h2
  rcases h1 with rfl | rfl | rfl <;> rcases h2 with rfl | rfl | rfl <;> decide

-- Non-vacuity
example : noEvalError [RuleFile.evaluated [some .pass, some .fail], .parseError, .empty] := by
  intro f hf; simp at hf; rcases hf with rfl | rfl | rfl <;> rfl
example : validateExit .plain [RuleFile.evaluated [some .pass, some .fail], .parseError] = .code 5 := by decide
example : validateExit .structured [RuleFile.evaluated [some .pass, some .fail], .parseError] = .code 19 := by decide
example : validateExit .junit [RuleFile.evaluated [some .pass, some .fail], .parseError] = .code 5 := by decide

end Guard.C06
