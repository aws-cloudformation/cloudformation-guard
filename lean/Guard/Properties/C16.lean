import Guard.Model.TestReport
import Guard.Gen.ExitCodes
/-
  C16 — `cfn-guard test` agrees with `cfn-guard validate`.
-/
namespace Guard.C16
open Guard

theorem go_skip (all seen : List Status) (k : Nat) (sts : List Status) :
    (getStatusResult.go .skip all seen k sts).1 =
      if k + sts.count .skip = all.length then some .skip else none := by
  induction sts generalizing seen k with
  | nil => by_cases h : k = all.length <;> simp [getStatusResult.go, h]
  | cons got rest ih =>
    have e : (if got == Status.skip then k + 1 else k) + rest.count .skip = k + (got :: rest).count .skip := by
      rw [List.count_cons]
      cases got
      · rfl
      · rfl
      · exact Nat.add_right_comm k 1 _
    rw [getStatusResult.go, if_pos (by rfl), ih, e]

theorem go_nonskip {expected : Status} (he : expected ≠ .skip) (all seen : List Status) (k : Nat)
    (sts : List Status) :
    (getStatusResult.go expected all seen k sts).1 = if expected ∈ sts then some expected else none := by
  have hb : (expected == Status.skip) = false := beq_false_of_ne he
  induction sts generalizing seen with
  | nil => simp [getStatusResult.go, hb]
  | cons got rest ih =>
    rw [getStatusResult.go, if_neg (by simp [hb])]
    by_cases hg : got = expected
    · simp [hg]
    · rw [if_neg (by simpa using hg), ih]
      simp [Ne.symm hg]

theorem getStatusResult_fst (expected : Status) (sts : List Status) :
    (getStatusResult expected sts).1 =
      if (expected ≠ .skip ∧ expected ∈ sts) ∨ (expected = .skip ∧ ∀ s ∈ sts, s = .skip) then some expected else none := by
  unfold getStatusResult
  by_cases he : expected = .skip
  · subst he
    rw [go_skip, Nat.zero_add]
    simp [List.count_eq_length, eq_comm]
  · rw [go_nonskip he]
    simp [he]

/-- **An expectation is met iff** some definition of the rule has the expected non-SKIP status,
    or SKIP is expected and all definitions are SKIP — for any number of definitions. -/
theorem C16_met_iff (expected : Status) (sts : List Status) :
    (getStatusResult expected sts).1 = some expected ↔
      (expected ≠ .skip ∧ expected ∈ sts) ∨ (expected = .skip ∧ ∀ s ∈ sts, s = .skip) := by
  rw [getStatusResult_fst]
  split <;> simp [*]

/-- the result is `Some(expected)` or `None`, nothing else -/
theorem C16_met_or_not (expected : Status) (sts : List Status) :
    (getStatusResult expected sts).1 = some expected ∨ (getStatusResult expected sts).1 = none := by
  rw [getStatusResult_fst]
  split
  · exact .inl rfl
  · exact .inr rfl

theorem classify_single {expectations : List (Str × Status)} {n : Str} {exp : Status}
    (he : alLookup n expectations = some exp) (sts : List Status) :
    ∃ o, classify expectations [(n, sts)] = [o] ∧ o.name = n ∧
      (o.isFailure = true ↔ (getStatusResult exp sts).1 = none) := by
  simp only [classify, List.map_cons, List.map_nil, he]
  cases getStatusResult exp sts with | mk a b =>
  cases a <;> exact ⟨_, rfl, rfl, by simp [TestOutcome.isFailure]⟩

theorem classify_no_expectation {expectations : List (Str × Status)} {groups : List (Str × List Status)} {n : Str}
    (hn : alLookup n expectations = none) {o : TestOutcome} (ho : o ∈ classify expectations groups)
    (hname : o.name = n) : o = .noExpectation n := by
  obtain ⟨⟨n', sts⟩, -, rfl⟩ := List.mem_map.mp ho
  cases hl : alLookup n' expectations with
  | none => simp only [hl] at hname ⊢; exact congrArg _ hname
  | some exp =>
    -- the outcome carries the name `n'`, which has an expectation
    obtain ⟨o, e, hn', -⟩ := classify_single hl sts
    cases e
    rw [← hname, hn', hl] at hn; cases hn

/-- **Rules without an expectation are reported as such and never counted as failures.** -/
theorem C16_no_expectation (expectations : List (Str × Status)) (groups : List (Str × List Status)) (n : Str)
    (hn : alLookup n expectations = none) :
    ∀ o ∈ classify expectations groups, o.name = n → o.isFailure = false :=
  fun _ ho hname => classify_no_expectation hn ho hname ▸ rfl

/-- a rule with an expectation is a failure exactly when the expectation is not met -/
theorem C16_failure_iff (expectations : List (Str × Status)) (n : Str) (sts : List Status) (exp : Status)
    (he : alLookup n expectations = some exp) :
    ∃ o, classify expectations [(n, sts)] = [o] ∧
      (o.isFailure = true ↔ ¬ ((exp ≠ .skip ∧ exp ∈ sts) ∨ (exp = .skip ∧ ∀ s ∈ sts, s = .skip))) := by
  obtain ⟨o, e, -, h⟩ := classify_single he sts
  refine ⟨o, e, h.trans ?_⟩
  rw [getStatusResult_fst]
  split <;> simp [*]

theorem mem_firstOccurrences {ns : List Str} {n : Str} : n ∈ firstOccurrences ns ↔ n ∈ ns := by
  induction ns with
  | nil => rfl
  | cons a as ih =>
    rw [firstOccurrences, List.mem_cons, List.mem_cons, List.mem_filter, ih]
    by_cases h : n = a <;> simp [h]

/-- **`test` evaluates with the same evaluator**: the statuses it groups under a rule name are the
    statuses of the top-level rule records of `runFile`'s tree with that name, in record order;
    every evaluated rule name has exactly one group. -/
theorem C16_same_eval (l : List (Str × Status)) :
    (∀ g ∈ groupByName l, g.2 = (l.filter (·.1 = g.1)).map (·.2) ∧ g.1 ∈ l.map (·.1)) ∧
    (∀ n ∈ l.map (·.1), ∃ g ∈ groupByName l, g.1 = n) := by
  constructor
  · intro g hg
    obtain ⟨n, hn, rfl⟩ := List.mem_map.mp hg
    exact ⟨rfl, mem_firstOccurrences.mp hn⟩
  · intro n hn
    exact ⟨_, List.mem_map.mpr ⟨n, mem_firstOccurrences.mpr hn, rfl⟩, rfl⟩

-- Non-vacuity / examples of the multi-definition reading
example : (getStatusResult .pass [.skip, .pass, .fail]).1 = some .pass := by decide
example : (getStatusResult .skip [.skip, .skip]).1 = some .skip := by decide
example : (getStatusResult .skip [.skip, .pass]).1 = none := by decide
example : (getStatusResult .fail [.skip, .pass]) = (none, [.skip, .pass]) := by decide

/-- **every rendering of a `test` run reads the test files alike**: the plain reporter and the structured one
    (json / yaml / junit) try the same readers in the same order on a test-specification file, YAML first (which
    types scalars like the loader of `validate` does), JSON only as the fallback. Generated from the two reporter
    sources on every run: changing one of them alone, or the order, breaks this obligation -/
theorem C16_spec_readers_alike :
    Gen.testSpecLoaders.map (·.1) = ["generic.rs", "structured.rs"] ∧
    (Gen.testSpecLoaders.all fun e => e.2 == ["serde_yaml", "serde_json"]) = true :=
  ⟨rfl, rfl⟩

end Guard.C16
