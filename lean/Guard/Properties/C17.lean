import Guard.Model.Merge
/-
  C17 — input parameters are merged into the data without loss or silent override.

  `merge` on structs, and the left-to-right fold over the parameter files, are given once in closed form
  (`merge_map_eq`, `go_eq`): the result is the concatenation of all entries when the incoming keys are `Fresh`,
  and `MultipleValues` otherwise.  Every theorem below reads its claim off that form.
-/
namespace Guard.C17
open Guard

def keysOf (ks : List (Path × Str)) : List Str := ks.map (·.2)

@[simp] theorem keysOf_append (a b : List (Path × Str)) : keysOf (a ++ b) = keysOf a ++ keysOf b := List.map_append

theorem hasKey_iff (ks : List (Path × Str)) (k : Str) : hasKey ks k = true ↔ k ∈ keysOf ks := by
  simp [hasKey, keysOf]

/-- the keys `oks` can be added to a struct that holds `ks` -/
def Fresh (ks oks : List Str) : Prop := oks.Nodup ∧ ∀ k ∈ oks, k ∉ ks

instance (ks oks : List Str) : Decidable (Fresh ks oks) := inferInstanceAs (Decidable (_ ∧ _))

theorem fresh_nil {ks : List Str} : Fresh ks [] := ⟨.nil, nofun⟩

theorem fresh_append {ks a b : List Str} : Fresh ks (a ++ b) ↔ Fresh ks a ∧ Fresh (ks ++ a) b := by
  simp only [Fresh, List.nodup_append, List.mem_append]
  constructor
  · rintro ⟨⟨ha, hb, hab⟩, h⟩
    exact ⟨⟨ha, fun k hk => h k (.inl hk)⟩, hb, fun k hk => fun | .inl h' => h k (.inr hk) h' | .inr h' => hab k h' k hk rfl⟩
  · rintro ⟨⟨ha, h1⟩, hb, h2⟩
    exact ⟨⟨ha, hb, fun x hx y hy e => h2 y hy (.inr (e ▸ hx))⟩, fun k => fun | .inl hk => h1 k hk | .inr hk => fun h' => h2 k hk (.inl h')⟩

theorem fresh_cons {ks r : List Str} {k : Str} : Fresh ks (k :: r) ↔ k ∉ ks ∧ Fresh (ks ++ [k]) r := by
  rw [← List.singleton_append, fresh_append]
  exact and_congr_left fun _ =>
    ⟨fun h => h.2 k (.head _), fun h => ⟨List.pairwise_singleton .., fun x hx => List.mem_singleton.1 hx ▸ h⟩⟩

theorem fresh_iff_nodup {ks oks : List Str} (h : ks.Nodup) : Fresh ks oks ↔ (ks ++ oks).Nodup := by
  simp only [Fresh, List.nodup_append, h, true_and]
  exact and_congr_right fun _ => ⟨fun h x hx y hy e => h y hy (e ▸ hx), fun h k hk hk' => h k hk' k hk rfl⟩

theorem okIf_eq_ok {α} {c : Prop} [Decidable c] {x m : α} {e : ErrKind} :
    (if c then Outcome.ok x else .err e) = .ok m ↔ c ∧ x = m := by
  split <;> simp [*]

theorem okIf_isOk {α} {c : Prop} [Decidable c] {x : α} {e : ErrKind} :
    (∃ m, (if c then Outcome.ok x else .err e) = .ok m) ↔ c := by
  simp only [okIf_eq_ok, exists_and_left, exists_eq', and_true]

/-- the incoming key entries as `merge` stores them: each key re-rooted under the path `p2` of the INCOMING struct (path_value.rs:895-906) -/
def rebase (p2 : Path) (oks : List (Path × Str)) : List (Path × Str) := oks.map fun e => (p2.extendStr e.2, e.2)

@[simp] theorem keysOf_rebase (p2 : Path) (oks : List (Path × Str)) : keysOf (rebase p2 oks) = keysOf oks := by
  simp [keysOf, rebase]

@[simp] theorem length_rebase (p2 : Path) (oks : List (Path × Str)) : (rebase p2 oks).length = oks.length := List.length_map _

theorem mergeEntries_eq (p2 : Path) (ks : List (Path × Str)) (vs : List PV) (oks : List (Path × Str)) (ovs : List PV)
    (hlen : oks.length = ovs.length) :
    mergeEntries p2 ks vs oks ovs =
      if Fresh (keysOf ks) (keysOf oks) then .ok (ks ++ rebase p2 oks, vs ++ ovs) else .err .MultipleValues := by
  induction oks generalizing ks vs ovs with
  | nil =>
    obtain rfl := List.eq_nil_of_length_eq_zero hlen.symm
    rw [if_pos (show Fresh (keysOf ks) (keysOf []) from fresh_nil)]
    show Outcome.ok (ks, vs) = .ok (ks ++ [], vs ++ [])
    rw [List.append_nil, List.append_nil]
  | cons e rest ih =>
    obtain ⟨v, ovs, rfl⟩ := List.exists_cons_of_length_eq_add_one hlen.symm
    have hf : Fresh (keysOf ks) (keysOf (e :: rest)) ↔ _ := fresh_cons
    rw [mergeEntries, ih _ _ _ (Nat.succ.inj hlen)]
    by_cases hk : e.2 ∈ keysOf ks
    · rw [if_pos ((hasKey_iff ..).2 hk), if_neg fun h => (hf.1 h).1 hk]
    · rw [if_neg (mt (hasKey_iff ..).1 hk), keysOf_append]
      refine ite_congr (propext (hf.trans (and_iff_right hk)).symm) (fun _ => ?_) fun _ => rfl
      rw [List.append_assoc, List.append_assoc]; rfl

theorem merge_map_eq (p p2 : Path) (ks oks : List (Path × Str)) (vs ovs : List PV) (hlen : oks.length = ovs.length) :
    PV.merge (.map p ks vs) (.map p2 oks ovs) =
      if Fresh (keysOf ks) (keysOf oks) then .ok (.map p (ks ++ rebase p2 oks) (vs ++ ovs))
      else .err .MultipleValues := by
  rw [PV.merge, mergeEntries_eq _ _ _ _ _ hlen]
  by_cases h : Fresh (keysOf ks) (keysOf oks) <;> simp only [h, ↓reduceIte]

/-- **merge succeeds iff the top-level key sets are disjoint; otherwise it is an error
    (`MultipleValues`), never a silent choice.** -/
theorem C17_merge_ok_iff (p p2 : Path) (ks oks : List (Path × Str)) (vs ovs : List PV)
    (hlen : oks.length = ovs.length) (hnd : (keysOf oks).Nodup) :
    ((∃ m, PV.merge (.map p ks vs) (.map p2 oks ovs) = .ok m) ↔ ∀ k ∈ keysOf oks, k ∉ keysOf ks) ∧
    ((¬ ∀ k ∈ keysOf oks, k ∉ keysOf ks) → PV.merge (.map p ks vs) (.map p2 oks ovs) = .err .MultipleValues) := by
  rw [merge_map_eq _ _ _ _ _ _ hlen, okIf_isOk]
  exact ⟨and_iff_right hnd, fun h => if_neg fun hf => h hf.2⟩

/-- keys and values stay aligned (same length) -/
theorem C17_merge_aligned (p p2 : Path) (ks oks : List (Path × Str)) (vs ovs : List PV)
    (ha : ks.length = vs.length) (hlen : oks.length = ovs.length) (m : PV)
    (h : PV.merge (.map p ks vs) (.map p2 oks ovs) = .ok m) :
    ∃ ks' vs', m = .map p ks' vs' ∧ ks'.length = vs'.length := by
  rw [merge_map_eq _ _ _ _ _ _ hlen, okIf_eq_ok] at h
  exact ⟨_, _, h.2.symm, by simp [ha, hlen]⟩

/-- a document that is not a struct cannot be merged: an error, not a guess -/
theorem C17_non_struct_is_error (a b : PV) (ha : a.isMap = false ∨ b.isMap = false)
    (hl : ¬ (a.isList = true ∧ b.isList = true)) : PV.merge a b = .err .IncompatibleError := by
  unfold PV.merge
  split
  · exact absurd ⟨rfl, rfl⟩ hl
  · exact ha.elim nofun nofun
  · rfl

/-- without parameter files the data file is evaluated as is -/
theorem C17_no_params (d : PV) : effectiveDoc none d = .ok d := rfl

-- Non-vacuity
example : (match PV.merge (.map Path.root [(Path.root, "a".toList)] [.int Path.root 1])
                   (.map Path.root [(Path.root, "a".toList)] [.int Path.root 2]) with
           | .err .MultipleValues => true | _ => false) = true := by
  decide
example : (PV.merge (.map Path.root [(Path.root, "a".toList)] [.int Path.root 1])
                    (.map Path.root [(Path.root, "b".toList)] [.int Path.root 2])).isOk = true := by
  decide

/-! ### Order independence (two sources) -/

/-- the entries of a struct as (key, value) pairs, in document order -/
def entriesOf (ks : List (Path × Str)) (vs : List PV) : List (Str × PV) := (keysOf ks).zip vs

theorem entriesOf_append {ks ks' : List (Path × Str)} {vs vs' : List PV} (h : ks.length = vs.length) :
    entriesOf (ks ++ ks') (vs ++ vs') = entriesOf ks vs ++ entriesOf ks' vs' := by
  rw [entriesOf, keysOf_append, List.zip_append (by rw [keysOf, List.length_map, h])]; rfl

@[simp] theorem entriesOf_rebase (p : Path) (ks : List (Path × Str)) (vs : List PV) :
    entriesOf (rebase p ks) vs = entriesOf ks vs := by
  rw [entriesOf, keysOf_rebase]; rfl

/-- **whether two sources can be merged does not depend on which one comes first** -/
theorem C17_merge_ok_symmetric (p p2 : Path) (ks oks : List (Path × Str)) (vs ovs : List PV)
    (ha : ks.length = vs.length) (hb : oks.length = ovs.length)
    (hna : (keysOf ks).Nodup) (hnb : (keysOf oks).Nodup) :
    (∃ m, PV.merge (.map p ks vs) (.map p2 oks ovs) = .ok m) ↔
    (∃ m, PV.merge (.map p2 oks ovs) (.map p ks vs) = .ok m) := by
  rw [merge_map_eq _ _ _ _ _ _ hb, merge_map_eq _ _ _ _ _ _ ha, okIf_isOk, okIf_isOk, fresh_iff_nodup hna,
    fresh_iff_nodup hnb]
  exact List.perm_append_comm.nodup_iff

/-- **and when they can, both orders give the same entries up to their order in the struct**:
    every (key, value) pair of one result is a pair of the other, with the same multiplicity -/
theorem C17_merge_order_independent (p p2 : Path) (ks oks : List (Path × Str)) (vs ovs : List PV)
    (ha : ks.length = vs.length) (hb : oks.length = ovs.length) (m1 m2 : PV)
    (h1 : PV.merge (.map p ks vs) (.map p2 oks ovs) = .ok m1)
    (h2 : PV.merge (.map p2 oks ovs) (.map p ks vs) = .ok m2) :
    ∃ k1 v1 k2 v2 q1 q2, m1 = .map q1 k1 v1 ∧ m2 = .map q2 k2 v2 ∧
      (entriesOf k1 v1).Perm (entriesOf k2 v2) := by
  rw [merge_map_eq _ _ _ _ _ _ hb, okIf_eq_ok] at h1
  rw [merge_map_eq _ _ _ _ _ _ ha, okIf_eq_ok] at h2
  refine ⟨_, _, _, _, _, _, h1.2.symm, h2.2.symm, ?_⟩
  rw [entriesOf_append ha, entriesOf_append hb, entriesOf_rebase, entriesOf_rebase]
  exact List.perm_append_comm

-- Non-vacuity: two disjoint one-key documents merge in both orders
example : (PV.merge (.map Path.root [(Path.root, "b".toList)] [.int Path.root 2])
                    (.map Path.root [(Path.root, "a".toList)] [.int Path.root 1])).isOk = true := by
  decide

/-! ### Order independence (any number of parameter files) -/

/-- a struct document: its path, key entries and values -/
abbrev Doc := Path × List (Path × Str) × List PV
def Doc.toPV (d : Doc) : PV := .map d.1 d.2.1 d.2.2
def Doc.aligned (d : Doc) : Prop := d.2.1.length = d.2.2.length
def allKeys (ds : List Doc) : List Str := ds.flatMap fun d => keysOf d.2.1
def allEntries (ds : List Doc) : List (Str × PV) := ds.flatMap fun d => entriesOf d.2.1 d.2.2

theorem allKeys_cons (d : Doc) (ds : List Doc) : allKeys (d :: ds) = keysOf d.2.1 ++ allKeys ds := List.flatMap_cons

/-- what the fold appends to its first document: the key entries and the values of the later ones -/
def tailKeys (qs : List Doc) : List (Path × Str) := qs.flatMap fun d => rebase d.1 d.2.1
def tailVals (qs : List Doc) : List PV := qs.flatMap (·.2.2)

theorem go_eq (qs : List Doc) (hq : ∀ d ∈ qs, d.aligned) (p : Path) (ks : List (Path × Str)) (vs : List PV) :
    mergeParams.go (.map p ks vs) (qs.map Doc.toPV) =
      if Fresh (keysOf ks) (allKeys qs) then .ok (.map p (ks ++ tailKeys qs) (vs ++ tailVals qs))
      else .err .MultipleValues := by
  induction qs generalizing ks vs with
  | nil =>
    rw [if_pos (show Fresh (keysOf ks) (allKeys []) from fresh_nil)]
    show Outcome.ok _ = .ok (PV.map p (ks ++ []) (vs ++ []))
    rw [List.append_nil, List.append_nil]
  | cons q qs ih =>
    have hf : Fresh (keysOf ks) (allKeys (q :: qs)) ↔ _ := allKeys_cons q qs ▸ fresh_append
    rw [List.map_cons, mergeParams.go, Doc.toPV, merge_map_eq _ _ _ _ _ _ (hq q (.head _))]
    by_cases h : Fresh (keysOf ks) (keysOf q.2.1)
    · rw [if_pos h]
      show mergeParams.go _ _ = _
      rw [ih (fun d hd => hq d (.tail _ hd)), keysOf_append, keysOf_rebase]
      refine ite_congr (propext (hf.trans (and_iff_right h)).symm) (fun _ => ?_) fun _ => rfl
      rw [List.append_assoc, List.append_assoc]; rfl
    · rw [if_neg h, if_neg fun h' => h (hf.1 h').1]

theorem entriesOf_tail (qs : List Doc) (hq : ∀ x ∈ qs, x.aligned) : entriesOf (tailKeys qs) (tailVals qs) = allEntries qs := by
  induction qs with
  | nil => rfl
  | cons q qs ih =>
    show entriesOf (rebase q.1 q.2.1 ++ tailKeys qs) (q.2.2 ++ tailVals qs) = entriesOf q.2.1 q.2.2 ++ allEntries qs
    rw [entriesOf_append ((length_rebase ..).trans (hq q (.head _))), entriesOf_rebase,
      ih fun x hx => hq x (.tail _ hx)]

theorem entriesOf_merged (d : Doc) (ds : List Doc) (hq : ∀ x ∈ d :: ds, x.aligned) :
    entriesOf (d.2.1 ++ tailKeys ds) (d.2.2 ++ tailVals ds) = allEntries (d :: ds) := by
  rw [entriesOf_append (hq d (.head _)), entriesOf_tail ds fun x hx => hq x (.tail _ hx)]; rfl

theorem mergeParams_eq (d : Doc) (ds : List Doc) (hq : ∀ x ∈ ds, x.aligned) :
    mergeParams ((d :: ds).map Doc.toPV) =
      if Fresh (keysOf d.2.1) (allKeys ds) then .ok (some (.map d.1 (d.2.1 ++ tailKeys ds) (d.2.2 ++ tailVals ds)))
      else .err .MultipleValues := by
  rw [List.map_cons, mergeParams, Doc.toPV, go_eq ds hq]
  by_cases h : Fresh (keysOf d.2.1) (allKeys ds) <;> simp only [h, ↓reduceIte]

/-- **the parameter files can be merged iff all their top-level keys are pairwise distinct** (each file being a
    struct with distinct keys, as the loader produces them) -/
theorem C17_params_ok_iff (d : Doc) (ds : List Doc) (hq : ∀ x ∈ d :: ds, x.aligned) (hd : (keysOf d.2.1).Nodup) :
    (∃ m, mergeParams ((d :: ds).map Doc.toPV) = .ok (some m)) ↔ (allKeys (d :: ds)).Nodup := by
  rw [mergeParams_eq d ds fun x hx => hq x (.tail _ hx), allKeys_cons, ← fresh_iff_nodup hd]
  simp only [okIf_eq_ok, Option.some.injEq, exists_and_left, exists_eq', and_true]

/-- **every order of the parameter files is as good as any other**: if the files merge in one order they merge in
    every order, and the merged documents hold the same (key, value) entries (as multisets; only the order of the
    keys inside the struct follows the order of the files) -/
theorem C17_params_order_independent (d : Doc) (ds : List Doc) (d' : Doc) (ds' : List Doc)
    (hperm : (d :: ds).Perm (d' :: ds')) (hq : ∀ x ∈ d :: ds, x.aligned)
    (hnd : ∀ x ∈ d :: ds, (keysOf x.2.1).Nodup) (m : PV)
    (h : mergeParams ((d :: ds).map Doc.toPV) = .ok (some m)) :
    ∃ m', mergeParams ((d' :: ds').map Doc.toPV) = .ok (some m') ∧
      ∃ p k v p' k' v', m = .map p k v ∧ m' = .map p' k' v' ∧ (entriesOf k v).Perm (entriesOf k' v') := by
  have hq' : ∀ x ∈ d' :: ds', x.aligned := fun x hx => hq x (hperm.mem_iff.2 hx)
  have hok := (C17_params_ok_iff d ds hq (hnd d (.head _))).1 ⟨m, h⟩
  obtain ⟨m', hm'⟩ := (C17_params_ok_iff d' ds' hq' (hnd d' (hperm.mem_iff.2 (.head _)))).2
    ((hperm.flatMap_right _).nodup hok)
  refine ⟨m', hm', ?_⟩
  rw [mergeParams_eq _ _ fun x hx => hq x (.tail _ hx), okIf_eq_ok] at h
  rw [mergeParams_eq _ _ fun x hx => hq' x (.tail _ hx), okIf_eq_ok] at hm'
  refine ⟨_, _, _, _, _, _, (Option.some.inj h.2).symm, (Option.some.inj hm'.2).symm, ?_⟩
  rw [entriesOf_merged d ds hq, entriesOf_merged d' ds' hq']
  exact hperm.flatMap_right _

-- Non-vacuity: three one-key files, merged in two different orders
example : (mergeParams ([((Path.root, [(Path.root, "a".toList)], [PV.int Path.root 1]) : Doc),
                         (Path.root, [(Path.root, "b".toList)], [PV.int Path.root 2]),
                         (Path.root, [(Path.root, "c".toList)], [PV.int Path.root 3])].map Doc.toPV)).isOk = true := by
  decide

/-! ### The whole pipeline: parameter files, then the data file -/

theorem mergedDocument_cons' (p : PV) (ps : List PV) (data : PV) :
    mergedDocument (p :: ps) data = mergeParams.go p (ps ++ [data]) := by
  have hgo : ∀ acc, mergeParams.go acc (ps ++ [data]) = (mergeParams.go acc ps).bind (·.merge data) := by
    induction ps with
    | nil => intro acc; show (match acc.merge data with | .ok m => Outcome.ok m | e => e) = acc.merge data; cases acc.merge data <;> rfl
    | cons q qs ih =>
      intro acc; simp only [List.cons_append, mergeParams.go]
      cases acc.merge q <;> first | exact ih _ | rfl
  rw [hgo, mergedDocument, mergeParams]
  cases mergeParams.go p ps <;> rfl

theorem mergedDocument_cons (d : Doc) (ds : List Doc) (data : Doc) :
    mergedDocument ((d :: ds).map Doc.toPV) data.toPV = mergeParams.go d.toPV ((ds ++ [data]).map Doc.toPV) := by
  rw [List.map_cons, mergedDocument_cons', List.map_append]; rfl

/-- **`validate` with parameter files evaluates the disjoint union, or fails**: the parameter files and the data
    file can be combined iff ALL their top-level keys are pairwise distinct; the document the rules then see holds
    exactly the entries of every parameter file followed by those of the data file - nothing lost, nothing overridden -/
theorem C17_merged_document (d : Doc) (ds : List Doc) (data : Doc) (hq : ∀ x ∈ d :: (ds ++ [data]), x.aligned)
    (hd : (keysOf d.2.1).Nodup) :
    ((∃ m, mergedDocument ((d :: ds).map Doc.toPV) data.toPV = .ok m) ↔ (allKeys (d :: (ds ++ [data]))).Nodup) ∧
    (∀ m, mergedDocument ((d :: ds).map Doc.toPV) data.toPV = .ok m →
      ∃ k v, m = .map d.1 k v ∧ entriesOf k v = allEntries (d :: (ds ++ [data]))) := by
  rw [mergedDocument_cons, Doc.toPV, go_eq _ fun x hx => hq x (.tail _ hx), allKeys_cons, ← fresh_iff_nodup hd, okIf_isOk]
  refine ⟨.rfl, fun m hm => ?_⟩
  rw [okIf_eq_ok] at hm
  exact ⟨_, _, hm.2.symm, entriesOf_merged d _ hq⟩

/-- without parameter files the rules see the data file itself -/
theorem C17_merged_document_no_params (data : PV) : mergedDocument [] data = .ok data := rfl

-- Non-vacuity: two parameter files and a data file with distinct keys
example : (mergedDocument ([((Path.root, [(Path.root, "a".toList)], [PV.int Path.root 1]) : Doc),
                            (Path.root, [(Path.root, "b".toList)], [PV.int Path.root 2])].map Doc.toPV)
            (Doc.toPV (Path.root, [(Path.root, "c".toList)], [PV.int Path.root 3]))).isOk = true := by
  decide
-- .. and a data file that repeats a parameter's key is an error
example : (match mergedDocument ([((Path.root, [(Path.root, "a".toList)], [PV.int Path.root 1]) : Doc)].map Doc.toPV)
            (Doc.toPV (Path.root, [(Path.root, "a".toList)], [PV.int Path.root 1])) with
           | .err .MultipleValues => true | _ => false) = true := by
  decide

end Guard.C17
