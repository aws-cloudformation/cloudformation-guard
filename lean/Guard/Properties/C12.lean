import Guard.Model.Eval
import Guard.Properties.C06
import Guard.Lemmas.FramesEval
/-
  C12 — evaluations are isolated: each (rules file, data file) pair stands alone.

  In the model a batch is a map of `runFile` over the pairs; `runFile` starts from `St.init rules doc`
  exactly where the Rust loops call `root_scope(..)` (validate.rs:718-725, structured.rs:108-118,
  reporters/mod.rs get_test_case, reporters/test/generic.rs:78-80, structured.rs:236-244), so nothing
  of an earlier pair can be seen by a later one.  The theorems say so; the weight of this property
  is on the tie (batches that share variable, rule and capture names, every order, files / directories
  / payload), which would expose a scope hoisted out of a loop or a cache keyed by name.
-/
namespace Guard.C12
open Guard

/-- one pair, evaluated in the course of a batch with whatever state the batch has accumulated:
    the state is not an input -/
def runPair (_leftover : St) (env : Env) (fuel : Nat) (r : RulesFile) (d : PV) : Outcome (Status × Rec) :=
  runFile env fuel r d

def validateBatch (env : Env) (fuel : Nat) (rs : List RulesFile) (ds : List PV) :
    List (List (Outcome (Status × Rec))) :=
  rs.map fun r => ds.map fun d => runFile env fuel r d

/-- leftover state of earlier pairs is irrelevant -/
theorem C12_state_irrelevant (st₁ st₂ : St) (env : Env) (fuel : Nat) (r : RulesFile) (d : PV) :
    runPair st₁ env fuel r d = runPair st₂ env fuel r d := rfl

/-- every pair of a batch has exactly the result of validating that pair alone -/
theorem C12_pairwise (env : Env) (fuel : Nat) (rs : List RulesFile) (ds : List PV) (i j : Nat)
    (hi : i < rs.length) (hj : j < ds.length) :
    ((validateBatch env fuel rs ds)[i]?.bind (·[j]?)) = some (runFile env fuel rs[i] ds[j]) ∧
    validateBatch env fuel [rs[i]] [ds[j]] = [[runFile env fuel rs[i] ds[j]]] := by
  refine ⟨?_, rfl⟩
  rw [validateBatch, List.getElem?_map, List.getElem?_eq_getElem hi]
  exact (List.getElem?_map ..).trans (congrArg _ (List.getElem?_eq_getElem hj))

/-- the order in which files are given or walked permutes the results and changes none -/
theorem C12_order (env : Env) (fuel : Nat) (rs rs' : List RulesFile) (ds : List PV) (h : rs'.Perm rs) :
    (validateBatch env fuel rs' ds).Perm (validateBatch env fuel rs ds) :=
  h.map _

theorem C12_order_data (env : Env) (fuel : Nat) (r : RulesFile) (ds ds' : List PV) (h : ds'.Perm ds) :
    (ds'.map fun d => runFile env fuel r d).Perm (ds.map fun d => runFile env fuel r d) :=
  h.map _

/-- the run reports failure iff some pair does (plain mode; the other modes: C06) -/
theorem C12_fails_iff (files : List Cli.RuleFile) (he : C06.noEvalError files) (hp : C06.allParsed files) :
    Cli.validateExit .plain files = .code 19 ↔ ∃ f ∈ files, f.hasFail = true := by
  refine ⟨fun h => ?_, C06.C06_validate_fail_plain files he hp⟩
  rcases C06.validateExit_cases .plain files with ⟨e, _⟩ | ⟨e, _⟩ | ⟨e, _⟩ | ⟨_, w⟩
  · exact nomatch h.symm.trans e
  · exact absurd (h.symm.trans e) (by decide)
  · exact absurd (h.symm.trans e) (by decide)
  · exact w

/-- **no scope is left behind**: evaluating a whole rules file from ANY state (any scope stack, memo tables,
    records) leaves the scope stack as it found it — same frames, roots, variable tables and parameter
    bindings; so nothing a later evaluation could resolve against is carried over.  Proved through the
    whole fuel-indexed mutual evaluator (`allPres`). -/
theorem C12_scopes_restored (env : Env) (fuel : Nat) (file : RulesFile) (st st' : St) (s : Status)
    (h : evalRulesFile env fuel file st = .ok (s, st')) : FramesSim st.frames st'.frames :=
  (w_evalRulesFile env fuel file nofun).pres st s st' h

/-- every rule evaluation, taken alone, restores the stack and the current root -/
theorem C12_rule_leaves_no_scope (env : Env) (fuel : Nat) (r : Rule) (st st' : St) (s : Status)
    (h : evalRule env fuel r st = .ok (s, st')) :
    FramesSim st.frames st'.frames ∧ rootOfFrames st'.frames = rootOfFrames st.frames :=
  ((allPres env fuel).rule r).sim_root h

/-- a whole-file evaluation started by `root_scope` ends with exactly the one root block scope it started with -/
theorem C12_init_stack (env : Env) (fuel : Nat) (file : RulesFile) (doc : PV) (st' : St) (s : Status)
    (h : evalRulesFile env fuel file (St.init file doc) = .ok (s, st')) :
    ∃ b, st'.frames = [.block b] ∧ b.root = doc := by
  obtain ⟨b, gs, e, hb, hr⟩ := FramesSim.block_inv (C12_scopes_restored env fuel file _ st' s h)
  cases gs with
  | nil => exact ⟨b, e, hb.1 ▸ extractVariables_root file.lets doc⟩
  | cons _ _ => exact hr.elim

end Guard.C12
