import Guard.Gen.Sites
import Guard.Properties.SitesBaseline
import Guard.Properties.C04
import Guard.Properties.C12
/-
  C05 — evaluation is deterministic.

  Every Lean function is deterministic, so the content here is (1) that every SOURCE of
  non-determinism in the code is either a parameter of the model or audited as order-irrelevant,
  and (2) that the model's results do not depend on those parameters:
    * `C05_hash_sites_covered` — a GENERATED obligation: every iteration over a std HashMap/HashSet
      found in the current source (tools/extract.py) is in the reviewed baseline with a reason;
      a change that starts iterating a hash container adds a site and this stops being true;
    * the clock: `now()` is the field `Env.now`; evaluation without a `now()` call does not read it;
    * earlier evaluations: C12 (`St.init` per pair).
  The runtime itself (actual hash seeds, processes) is only observable by repetition: partial.
-/
namespace Guard.C05
open Guard

def siteKey (s : String × String × String × Nat) : String × String × String × Nat := s
def baseKey (s : String × String × String × Nat × String) : String × String × String × Nat := (s.1, s.2.1, s.2.2.1, s.2.2.2.1)

/-- every hash-iteration site in the current source is a reviewed one, and none is unreviewed -/
theorem C05_hash_sites_covered :
    (Gen.hashSites.all fun s => (Sites.hashBaseline.map baseKey).contains s) = true ∧
    (Sites.hashBaseline.all fun b => b.2.2.2.2 != "UNREVIEWED") = true := by
  decide +kernel

/-- permuting what a hash container yields does not change any aggregated status (C04) -/
theorem C05_order_free_aggregation {l₁ l₂ : List Status} (h : l₁.Perm l₂) :
    bodyStatus l₁ = bodyStatus l₂ ∧ lineStatus l₁ = lineStatus l₂ :=
  ⟨C04.C04_lines_perm h, C04.C04_line_perm h⟩

/-- the clock is read only by `now()`: every other function ignores `Env.now` -/
theorem C05_clock_only_now (env : Env) (t₁ t₂ : Int) (name : FunctionName) (args : List (List QR)) (h : name ≠ .now) :
    callFunction { env with now := t₁ } name args = callFunction { env with now := t₂ } name args := by
  cases name <;> first | rfl | exact absurd rfl h

/-- nothing evaluated earlier in the process is an input of a later evaluation -/
theorem C05_no_leftover_state (st₁ st₂ : St) (env : Env) (fuel : Nat) (r : RulesFile) (d : PV) :
    C12.runPair st₁ env fuel r d = C12.runPair st₂ env fuel r d := rfl

end Guard.C05
