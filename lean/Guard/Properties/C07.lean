import Guard.Properties.C09
import Guard.Model.Cli
/-
  C07 — the verdict is independent of output format, verbosity and entry point.

  Every renderer reads ONE record tree (or the `FileReport` derived from it).  Proved here: the
  PASS / FAIL / SKIP partitions that the summary table, the structured report and the JUnit
  reporter extract from a tree coincide; the SARIF result count is the number of reported
  failing checks; flags (-v, -p, -S) only select what is printed (they are not inputs of any
  verdict function of the model).  Well-formedness of the emitted JSON / YAML / XML is a property
  of serde_json / serde_yaml / quick_xml and is only read back (partial).
-/
namespace Guard.C07
open Guard

/-- the summary table's partition (summary_table.rs:155-240): top-level rule records by status -/
def summaryPartition (t : Rec) : List Str × List Str × List Str :=
  (namesWith .pass t.children, namesWith .fail t.children, namesWith .skip t.children)

/-- **summary table and structured report partition the rules identically** -/
theorem C07_partitions (s : Status) (ch : List Rec) (h : C09.rulesOnly ch) (rep : FileReport)
    (hrep : fileReport (.node (.fileCheck s) ch) = some rep) :
    (summaryPartition (.node (.fileCheck s) ch)).1 = rep.compliant ∧
    (summaryPartition (.node (.fileCheck s) ch)).2.2 = rep.notApplicable ∧
    (summaryPartition (.node (.fileCheck s) ch)).2.1 = rep.notCompliant.filterMap CR.ruleName? ∧
    rep.status = s :=
  have ⟨hs, hc, hna, hnc⟩ := C09.fileReport_fields s ch h rep hrep
  ⟨hc.symm, hna.symm, hnc.symm, hs⟩

/-- JUnit: one case per (data file, rules file), marked from the file status -/
inductive JCase | pass | skip | failure
  deriving DecidableEq

def junitCase : Status → JCase
  | .pass => .pass | .skip => .skip | .fail => .failure

theorem C07_junit (s : Status) :
    (junitCase s = .failure ↔ s = .fail) ∧ (junitCase s = .pass ↔ s = .pass) ∧ (junitCase s = .skip ↔ s = .skip) := by
  cases s <;> decide

mutual
/-- `ClauseReport::get_message`: one message per reported leaf -/
def messageCount : CR → Nat
  | .rule _ _ cs => messageCountList cs
  | .block _ => 1
  | .disjunctions cs => messageCountList cs
  | .clause _ => 1
def messageCountList : List CR → Nat
  | [] => 0
  | c :: cs => messageCount c + messageCountList cs
end

/-- SARIF (sarif.rs:28-160): results only for FAIL reports, one per message -/
def sarifResultCount (reports : List FileReport) : Nat :=
  ((reports.filter fun r => r.status == .fail).map fun r => messageCountList r.notCompliant).sum

/-- a report that did not FAIL contributes no SARIF result; a FAIL report one per reported check -/
theorem C07_sarif (r : FileReport) :
    (r.status ≠ .fail → sarifResultCount [r] = 0) ∧
    (r.status = .fail → sarifResultCount [r] = messageCountList r.notCompliant) := by
  unfold sarifResultCount
  rw [List.filter_cons]
  constructor
  · intro h; rw [if_neg (by simpa using h)]; rfl
  · intro h; rw [if_pos (by simpa using h)]; exact Nat.add_zero _

/-- exit code, for one evaluated pair, is a function of the file status only (whatever the format) -/
theorem C07_exit_from_status (s : Status) (m : Cli.Mode) :
    Cli.validateExit m [.evaluated [some s]] = .code (if s = .fail then 19 else 0) := by
  cases s <;> cases m <;> decide

/-- **every entry point hands the text of a data source to the loader in the same way**: the files of `--data`,
    the document on STDIN, the entries of `--payload` and the `--input-parameters` files all reach `build_data_file`
    through the same expression (generated from validate.rs on every run) - an entry point that trims, re-encodes or
    otherwise edits its text before loading breaks this obligation -/
theorem C07_entry_points_pass_text_alike :
    2 ≤ Gen.dataTextArgs.length ∧ Gen.dataTextArgs.eraseDups.length = 1 := by
  decide

end Guard.C07
