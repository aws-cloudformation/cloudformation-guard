import Guard.Properties.C13
import Guard.Model.Eval
/-
  C03 — negation is honoured: the prefix `not`/`NOT`/`!` is never ignored and means the same as
  the operator-level negation.
-/
namespace Guard.C03
open Guard

/-- `not X op` ≡ `X !op`, `not X !op` ≡ `X op` (double negation): the value-level check only
    depends on the XOR of the two negations. -/
theorem C03_unary_prefix_eq_operator_not (op : CmpOp) (opNot inverse : Bool) (v : QR) :
    unaryCheck op opNot inverse v = unaryCheck op (opNot != inverse) false v := by
  unfold unaryCheck
  cases unaryBase op v <;> simp only [Bool.bne_assoc, Bool.bne_false]

theorem C03_unary_double_negation (op : CmpOp) (v : QR) :
    unaryCheck op true true v = unaryCheck op false false v := by
  rw [C03_unary_prefix_eq_operator_not]; rfl

/-- the prefix negation is never ignored: it flips every defined unary check -/
theorem C03_unary_flip (op : CmpOp) (opNot : Bool) (v : QR) (b : Bool)
    (h : unaryCheck op opNot false v = .ok b) : unaryCheck op opNot true v = .ok (!b) := by
  unfold unaryCheck at *
  cases hb : unaryBase op v <;> rw [hb] at h <;> cases h
  simp only [Bool.bne_false, Bool.bne_true]

/-- same for the `empty` test on filter results / bare variables -/
theorem C03_empty_expr_prefix_eq_operator_not (opNot inverse : Bool) (v : QR) :
    emptyExprCheck opNot inverse v = emptyExprCheck (opNot != inverse) false v ∧
    emptyExprNoValue opNot inverse = emptyExprNoValue (opNot != inverse) false := by
  simp only [emptyExprCheck, emptyExprNoValue, Bool.bne_assoc, Bool.bne_false, and_self]

theorem C03_empty_expr_flip (opNot : Bool) (v : QR) :
    emptyExprCheck opNot true v = !emptyExprCheck opNot false v ∧
    emptyExprNoValue opNot true = !emptyExprNoValue opNot false := by
  simp only [emptyExprCheck, emptyExprNoValue, Bool.bne_true, Bool.bne_false, and_self]

/-- `not X == v` ≡ `X != v`, `not X in L` ≡ `X not in L`, `not X > v` ≡ `X not > v`, … and
    `not X != v` ≡ `X == v`: for every query, right-hand side, scope state and fuel the two
    clauses are THE SAME computation (same status, same records, same errors). -/
theorem C03_binary_prefix_eq_operator_not (env : Env) (fuel : Nat) (q : List QueryPart) (all : Bool)
    (op : CmpOp) (opNot : Bool) (w : Option LetValue) (msg : Option Str) (hop : op.isUnary = false) :
    evalClause env fuel (.access true q all op opNot w msg) =
    evalClause env fuel (.access false q all op (!opNot) w msg) := by
  cases fuel with
  | zero => rfl
  | succ n =>
    -- a binary clause reads the two negations only through `opNot != neg`
    have : (opNot != true) = ((!opNot) != false) := by cases opNot <;> rfl
    simp only [evalClause, hop, this, Bool.false_eq_true, ↓reduceIte]

/-- One resolved, non-list value against one non-list literal, ordering operators:
    exactly one value check is produced and the operator-level `not` flips it, unless the
    two values are not comparable (then both polarities FAIL — C13). -/
theorem C03_single_value_flip (env : Env) (op : CmpOp) (x y : PV) (hop : op ∈ [CmpOp.lt, .le, .gt, .ge])
    (hx : x.isList = false) (hy : y.isList = false) :
    ∃ cmp : PV → PV → Outcome Bool,
      (match cmp x y with
       | .ok b =>
         cmpCompare env op false [.resolved x] [.literal y] = .ok (.result [if b then verSuccess x y else verFail x y]) ∧
         cmpCompare env op true [.resolved x] [.literal y] = .ok (.result [if b then verFail x y else verSuccess x y])
       | .err .NotComparable =>
         cmpCompare env op false [.resolved x] [.literal y] = .ok (.result [.cmp (.notComparable x y)]) ∧
         cmpCompare env op true [.resolved x] [.literal y] = .ok (.result [.cmp (.notComparable x y)])
       | _ => True) := by
  refine ⟨cmpWith (opTest op), ?_⟩
  have e (neg) := cmpCompare_ordering_single env hop neg hx hy
  rcases compareValues_ok_or_nc x y with ⟨o, h⟩ | h
  · simp only [cmpWith_ok _ h, e, ordCheck, h]; by_cases ht : opTest op o = true <;> simp [ht]
  · simp only [cmpWith_err _ h, e, ordCheck, h, and_self]

/-- `not X > v` holds exactly when `X <= v` does (and the three other pairings), on
    same-ordered-type scalars. -/
theorem C03_not_gt_iff_le (a b : PV) (h : C13.sameOrdered a b = true) :
    (∃ r, compareGt a b = .ok r ∧ compareLe a b = .ok (!r)) ∧
    (∃ r, compareLt a b = .ok r ∧ compareGe a b = .ok (!r)) := by
  obtain ⟨o, ho⟩ := C13.C13_ordering_defined a b h
  exact ⟨⟨_, cmpWith_ok _ ho, (cmpWith_ok _ ho).trans (by cases o <;> rfl)⟩,
    ⟨_, cmpWith_ok _ ho, (cmpWith_ok _ ho).trans (by cases o <;> rfl)⟩⟩

/-- `not R` for a rule name R is PASS exactly when R is not PASS; SKIP never comes out. -/
theorem C03_named (s : Status) :
    (namedStatus true s = .pass ↔ s ≠ .pass) ∧ (namedStatus false s = .pass ↔ s = .pass) := by
  cases s <;> simp [namedStatus]

-- Non-vacuity
example : (CmpOp.eq).isUnary = false := rfl
example : unaryCheck .exists_ false true (.resolved (.null Path.root)) = .ok false := rfl

end Guard.C03
