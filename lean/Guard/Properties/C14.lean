import Guard.Model.Lexer
import Guard.Model.Eval
import Guard.Gen.Operators
/-
  C14 — alternative spellings, layout and comments do not change a rule file's meaning.
  (a) the synonym tables are the ones GENERATED from parser.rs; (b) lexical-layer theorems
  (white space / comments are skipped whatever their shape, single and double quotes denote the
  same string); (c) `this` is the identity query step.  The full grammar (clauses, blocks,
  rules) is not transliterated: that part rests on the tie (every generated program is re-spelled
  token class by token class and the real parser's ASTs and the verdicts must coincide) — partial.
-/
namespace Guard.C14
open Guard Guard.Lexer

def upperAscii (s : String) : String := String.ofList (s.toList.map fun c => if 'a' ≤ c ∧ c ≤ 'z' then Char.ofNat (c.toNat - 32) else c)

/-- every keyword parser accepts exactly two spellings and they differ only in case
    (`when/WHEN`, `in/IN`, `exists/EXISTS`, `some/SOME`, `this/THIS`, `null/NULL`, the `is_*` tests …);
    `or` has three: `or`, `OR`, `|OR|` -/
theorem C14_keyword_case :
    ((Gen.keywordSpellings.filter (·.1 != "or_term")).all fun kw =>
        kw.2.length == 2 && (kw.2.map upperAscii).eraseDups.length == 1 && kw.2.eraseDups.length == 2) = true ∧
    (Gen.keywordSpellings.find? (·.1 == "or_term")).map (·.2) = some ["or", "OR", "|OR|"] := by
  -- `+kernel`: a `String` is UTF-8 bytes, `upperAscii` decodes and re-encodes each spelling, and the
  -- elaborator's own evaluator is five times slower at that than the kernel
  decide +kernel

/-- `not` / `NOT` / `!` and `=` / `:=` -/
theorem C14_not_assign_forms :
    Gen.notSpellings = ["not", "NOT", "!"] ∧ Gen.assignSpellings = ["=", ":="] :=
  ⟨rfl, rfl⟩

/-- Rust's `i as i32` on an `i64`: keep the low 32 bits (two's complement) -/
def wrapI32 (i : Int) : Int := (i + 2147483648) % 4294967296 - 2147483648

/-- **`.n` and `[n]` are the same index**: both parser functions read the integer with the same literal parser and
    turn it into the `i32` index by the same conversion (generated from `parser.rs`: a change to one of the two sites
    alone breaks this obligation) -/
theorem C14_index_forms_convert_alike :
    Gen.indexConversions.map (·.1) = ["dotted_property", "array_index"] ∧
    (Gen.indexConversions.map (·.2)).eraseDups.length = 1 := by
  decide

/-- the conversion both forms use is the identity on every index that fits in 32 bits .. -/
theorem wrapI32_small (i : Int) (h : -2147483648 ≤ i ∧ i < 2147483648) : wrapI32 i = i := by
  unfold wrapI32; omega

/-- .. and always lands in the i32 range -/
theorem wrapI32_range (i : Int) : -2147483648 ≤ wrapI32 i ∧ wrapI32 i < 2147483648 := by
  unfold wrapI32; omega

example : wrapI32 4294967297 = 1 ∧ wrapI32 2147483648 = -2147483648 := by decide

/-- a piece of layout: blanks, tabs, line breaks and `#` comments up to the end of the line -/
inductive Layout : Str → Prop
  | nil : Layout []
  | ws (c : Char) (rest : Str) : isWs c = true → Layout rest → Layout (c :: rest)
  | comment (body rest : Str) : (∀ c ∈ body, c ≠ '\n') → Layout rest → Layout ('#' :: body ++ '\n' :: rest)

def startsToken : Str → Prop
  | [] => True
  | c :: _ => isWs c = false ∧ c ≠ '#'

theorem skipSpaces_not_ws (c : Char) (cs : Str) (h : isWs c = false) : skipSpaces (c :: cs) = c :: cs := by
  simp [skipSpaces, h]

theorem skipSpaces_length (s : Str) : (skipSpaces s).length ≤ s.length := by
  induction s with
  | nil => simp [skipSpaces]
  | cons c cs ih => simp only [skipSpaces]; split <;> simp <;> omega

theorem skipToEol_length (s : Str) : (skipToEol s).length ≤ s.length := by
  induction s with
  | nil => simp [skipToEol]
  | cons c cs ih => simp only [skipToEol]; split <;> simp <;> omega

theorem skipToEol_body (body rest : Str) (h : ∀ c ∈ body, c ≠ '\n') : skipToEol (body ++ '\n' :: rest) = '\n' :: rest := by
  induction body with
  | nil => simp [skipToEol]
  | cons b bs ih =>
    have ⟨hb, hbs⟩ := List.forall_mem_cons.1 h
    simp [skipToEol, hb, ih hbs]

theorem skip_token (fuel : Nat) (r : Str) (h : startsToken r) : skipWsComments fuel r = r := by
  cases fuel with
  | zero => rfl
  | succ n =>
    cases r with
    | nil => rfl
    | cons c cs => simp [skipWsComments, h.1, h.2]

/-- **Indentation, blank lines, trailing spaces, line breaks and `#` comments between tokens are
    skipped, whatever their shape**: for every piece of layout `ws` and every continuation `r`
    that starts a token, the skipper consumes exactly `ws`. -/
theorem C14_ws_comments (ws r : Str) (hw : Layout ws) (hr : startsToken r) :
    ∀ fuel, ws.length ≤ fuel → skipWsComments fuel (ws ++ r) = r := by
  -- the loop strips blanks after each step (`multispace1`, and `multispace0` closing a comment), so
  -- the induction needs the same fact for an input whose leading blanks are already gone
  suffices key : ∀ fuel, ws.length ≤ fuel →
      skipWsComments fuel (ws ++ r) = r ∧ skipWsComments fuel (skipSpaces (ws ++ r)) = r from
    fun fuel hf => (key fuel hf).1
  induction hw with
  | nil =>
    intro fuel _
    cases r with
    | nil => exact ⟨skip_token fuel [] hr, skip_token fuel [] hr⟩
    | cons c cs => exact ⟨skip_token fuel _ hr, by rw [List.nil_append, skipSpaces_not_ws c cs hr.1]; exact skip_token fuel _ hr⟩
  | ws c rest hc _ ih =>
    intro fuel hf
    cases fuel with
    | zero => simp at hf
    | succ n =>
      have hn : rest.length ≤ n := Nat.le_of_succ_le_succ hf
      constructor
      · simpa only [List.cons_append, skipWsComments, hc, ↓reduceIte] using (ih n hn).2
      · simpa only [List.cons_append, skipSpaces, hc, ↓reduceIte] using (ih (n + 1) (Nat.le_succ_of_le hn)).2
  | comment body rest hb _ ih =>
    intro fuel hf
    cases fuel with
    | zero => simp at hf
    | succ n =>
      have hn : rest.length ≤ n := by simp only [List.length_cons, List.length_append] at hf; omega
      have step : skipWsComments (n + 1) ('#' :: body ++ '\n' :: rest ++ r) = r := by
        simpa only [List.cons_append, List.append_assoc, skipWsComments, show isWs '#' = false from rfl, beq_self_eq_true,
          Bool.false_eq_true, ↓reduceIte, skipToEol_body _ _ hb, skipSpaces, show isWs '\n' = true from rfl] using (ih n hn).2
      exact ⟨step, by rw [List.cons_append, List.cons_append, skipSpaces_not_ws _ _ rfl]; exact step⟩

theorem stringBody_plain (q : Char) (s rest : Str) (h : ∀ c ∈ s, c ≠ q ∧ c ≠ '\\') :
    stringBody q (s ++ q :: rest) = some (s, rest) := by
  induction s with
  | nil => cases rest <;> simp [stringBody]
  | cons c cs ih =>
    have ⟨hc, hcs⟩ := List.forall_mem_cons.1 h
    have ih := ih hcs
    cases hd : cs ++ q :: rest with
    | nil => simp at hd
    | cons d ds =>
      rw [hd] at ih
      simp only [List.cons_append, hd, stringBody, beq_false_of_ne hc.1, beq_false_of_ne hc.2, Bool.false_eq_true,
        ↓reduceIte, Bool.false_and, ih, Option.map_some]

/-- **single vs double quotes**: a string without quotes and backslashes denotes the same value
    in either quoting -/
theorem C14_string_quotes (s rest : Str) (h : ∀ c ∈ s, c ≠ '"' ∧ c ≠ '\'' ∧ c ≠ '\\') :
    parseString ('"' :: s ++ '"' :: rest) = some (s, rest) ∧
    parseString ('\'' :: s ++ '\'' :: rest) = some (s, rest) :=
  ⟨stringBody_plain '"' s rest fun c hc => ⟨(h c hc).1, (h c hc).2.2⟩,
   stringBody_plain '\'' s rest fun c hc => (h c hc).2⟩

/-- an explicit `this` is the identity step of a query: it is skipped without touching the
    current value, the state or the converter -/
theorem C14_this_is_identity (env : Env) (fuel qi : Nat) (query : List QueryPart) (cur : PV) (conv : Option Nat)
    (h : query[qi]? = some .this) :
    queryRetrieval env (fuel + 1) qi query cur conv = queryRetrieval env fuel (qi + 1) query cur conv := by
  simp [queryRetrieval, h, QueryPart.isVariable, QueryPart.variable]

-- Non-vacuity
example : Layout "  # a comment\n\t\n".toList := by
  -- a literal is `String.ofList` of its characters by definition; decoding its bytes would be dear
  rw [show "  # a comment\n\t\n" = String.ofList _ from rfl, String.toList_ofList]
  exact .ws _ _ rfl (.ws _ _ rfl (.comment [' ', 'a', ' ', 'c', 'o', 'm', 'm', 'e', 'n', 't'] _ (by decide)
    (.ws _ _ rfl (.ws _ _ rfl .nil))))
example : skipWsComments 20 "  # c\n x == 1".toList = "x == 1".toList := by decide

end Guard.C14
