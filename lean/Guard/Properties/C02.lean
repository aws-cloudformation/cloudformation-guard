import Guard.Lemmas.RecExt
import Guard.Lemmas.ConsEval
/-
  C02 — every composite status follows from its parts.
  The evaluator model computes every composite status through the five aggregators below
  (`lineStatus`, `bodyStatus`, `someStatus`, `clauseStatus`, `namedStatus`); these theorems
  characterise them for lists of EVERY length (the property's 3ⁿ child-status vectors at all sites).
  `Consistent` (Guard/Judge/C02.lean) is the same statement as a decidable predicate on record
  trees; it is run on the implementation's tree by the check.
-/
namespace Guard.C02
open Guard

/-- A line of `or`-joined alternatives: PASS iff one alternative passed; FAIL iff none passed
    and one failed; else SKIP. -/
theorem C02_line (sts : List Status) :
    (lineStatus sts = .pass ↔ Status.pass ∈ sts) ∧
    (lineStatus sts = .fail ↔ Status.pass ∉ sts ∧ Status.fail ∈ sts) ∧
    (lineStatus sts = .skip ↔ Status.pass ∉ sts ∧ Status.fail ∉ sts) :=
  lineStatus_spec sts

/-- A block / rule body / `when` body / filter body / the file over its rules / a type block over
    its values: FAIL iff one line failed; PASS iff none failed and one passed; else SKIP. -/
theorem C02_body (lines : List Status) :
    (bodyStatus lines = .fail ↔ Status.fail ∈ lines) ∧
    (bodyStatus lines = .pass ↔ Status.fail ∉ lines ∧ Status.pass ∈ lines) ∧
    (bodyStatus lines = .skip ↔ Status.fail ∉ lines ∧ Status.pass ∉ lines) :=
  bodyStatus_spec lines

/-- `some` query block over its values: PASS iff one value passed; FAIL iff none passed and one
    failed; else SKIP. -/
theorem C02_some_block (vals : List Status) :
    (someStatus vals = .pass ↔ Status.pass ∈ vals) ∧
    (someStatus vals = .fail ↔ Status.pass ∉ vals ∧ Status.fail ∈ vals) ∧
    (someStatus vals = .skip ↔ Status.pass ∉ vals ∧ Status.fail ∉ vals) :=
  C02_line vals

/-- The file status is the body aggregation over the rule statuses (same function, same law). -/
theorem C02_file (rules : List Status) :
    (bodyStatus rules = .fail ↔ Status.fail ∈ rules) ∧
    (bodyStatus rules = .pass ↔ Status.fail ∉ rules ∧ Status.pass ∈ rules) ∧
    (bodyStatus rules = .skip ↔ Status.fail ∉ rules ∧ Status.pass ∉ rules) :=
  C02_body rules

/-- A clause over its per-value checks: under `all`, FAIL iff a value check failed (PASS otherwise,
    also for zero checks); under `some`, PASS iff a value check passed. Never SKIP. -/
theorem C02_clause (all : Bool) (results : List Bool) :
    (clauseStatus true results = .fail ↔ false ∈ results) ∧
    (clauseStatus true results = .pass ↔ false ∉ results) ∧
    (clauseStatus false results = .pass ↔ true ∈ results) ∧
    (clauseStatus false results = .fail ↔ true ∉ results) ∧
    clauseStatus all results ≠ .skip := by
  simp only [clauseStatus, List.any_beq', List.contains_iff_mem]
  by_cases h1 : false ∈ results <;> by_cases h2 : true ∈ results <;> cases all <;> simp [h1, h2]

/-- A clause naming another rule is PASS iff that rule is PASS (FAIL otherwise), inverted under
    `not`; it is never SKIP. -/
theorem C02_named (neg : Bool) (s : Status) :
    (namedStatus false s = .pass ↔ s = .pass) ∧ (namedStatus false s = .fail ↔ s ≠ .pass) ∧
    (namedStatus true s = .pass ↔ s ≠ .pass) ∧ (namedStatus true s = .fail ↔ s = .pass) ∧
    namedStatus neg s ≠ .skip := by
  cases s <;> cases neg <;> simp [namedStatus]

/-- Permutation invariance of the aggregators: the status of a body does not
    depend on the order of its lines, nor that of a line on the order of its alternatives. -/
theorem C02_body_perm {l₁ l₂ : List Status} (h : l₁.Perm l₂) : bodyStatus l₁ = bodyStatus l₂ :=
  prio_congr .fail .pass fun _ => h.mem_iff

theorem C02_line_perm {l₁ l₂ : List Status} (h : l₁.Perm l₂) : lineStatus l₁ = lineStatus l₂ :=
  prio_congr .pass .fail fun _ => h.mem_iff

/-- Repeating a line / an alternative does not change the aggregate. -/
theorem C02_body_dup (x : Status) (l : List Status) (h : x ∈ l) : bodyStatus (x :: l) = bodyStatus l :=
  prio_congr .fail .pass fun _ => mem_cons_iff_of_mem h

/-- The `Consistent` predicate is not vacuous: a hand-written two-rule tree satisfies it, and
    flipping one composite status breaks it. -/
example : Consistent (.node (.fileCheck .fail) [
    .node (.ruleCheck "a".toList .pass none) [.node (.guardClauseBlockCheck .pass) [.node (.clauseValueCheck .success) []]],
    .node (.ruleCheck "b".toList .fail none) [.node (.disjunction .fail) [
      .node (.guardClauseBlockCheck .skip) [],
      .node (.guardClauseBlockCheck .fail) [.node (.clauseValueCheck (.noValueForEmptyCheck none)) []]]]]) = true := by
  decide
example : Consistent (.node (.fileCheck .pass) [
    .node (.ruleCheck "b".toList .fail none) [.node (.guardClauseBlockCheck .fail) [.node (.clauseValueCheck (.noValueForEmptyCheck none)) []]]]) = false := by
  decide

/-- **the root of the tree is the verdict**: whenever a (rules file, document) evaluation succeeds, the record tree
    it returns is a `FileCheck` that carries exactly the returned status, that status is the aggregation of the
    statuses of the file's rules, and the root's children are — in file order — one `RuleCheck` per rule carrying
    the status that rule's evaluation returned.  For every program, document, environment and fuel. -/
theorem C02_root_is_verdict (env : Env) (fuel : Nat) (file : RulesFile) (doc : PV) (s : Status) (t : Rec)
    (h : runFile env fuel file doc = .ok (s, t)) :
    t.kind = .fileCheck s ∧
    ∃ sts : List Status, sts.length = file.rules.length ∧ s = bodyStatus sts ∧
      t.children.map Rec.kind = (file.rules.zip sts).map fun p => RecKind.ruleCheck p.1.name p.2 none :=
  runFile_top env fuel file doc s t h

/-- records are well nested at the top: a whole-file evaluation leaves exactly one open record (the root) -/
theorem C02_one_root (env : Env) (fuel : Nat) (file : RulesFile) (doc : PV) (s : Status) (st : St)
    (h : evalRulesFile env fuel file (St.init file doc) = .ok (s, st)) : ∃ r, st.recs = [r] :=
  runFile_never_panics_on_records env fuel file doc s st h

/-- **recorder discipline** (the `start_record` / `end_record` stack of the Rust recorder): evaluating a clause
    never drops, reorders or rewrites a record of its caller; its own records sit on top.  Holds for all 17
    functions of the evaluator (`allRx`), every program, state and fuel. -/
theorem C02_records_only_added (env : Env) (fuel : Nat) (c : Clause) (st st' : St) (s : Status)
    (h : evalClause env fuel c st = .ok (s, st')) : ∃ new, st'.recs = new ++ st.recs :=
  (allRx env fuel).clause c st s st' h

/-- a composite record carries the status its evaluation returned: rules … -/
theorem C02_rule_record_status (env : Env) (fuel : Nat) (r : Rule) (st st' : St) (s : Status)
    (h : evalRule env fuel r st = .ok (s, st')) : ∃ ch, st'.recs = Rec.node (.ruleCheck r.name s none) ch :: st.recs := by
  obtain ⟨_, e, _, ch, rfl⟩ := (allInv env fuel).rule r _ _ _ h
  exact ⟨ch, e⟩

/-- **C02 at full strength, for the evaluator itself**: for EVERY rules file, document, environment and fuel,
    whenever the evaluation completes, the record tree it returns is `Consistent` — at every composite record
    (file, rule, condition, type check and type block, `when` block, block clause, disjunction, filter, access
    clause, named-rule reference) the recorded status is explained, through the documented aggregation, by the
    records below it.  `Consistent` is the very predicate the driver runs as judge on the implementation's
    trees, so this is "the judge can never fire on the model", by induction over the 17 mutually recursive
    functions of the evaluator (`allInv`). -/
theorem C02_tree_consistent (env : Env) (fuel : Nat) (file : RulesFile) (doc : PV) (s : Status) (t : Rec)
    (h : runFile env fuel file doc = .ok (s, t)) : Consistent t = true := by
  obtain ⟨st, hev, ht⟩ := runFile_ok h
  obtain ⟨_, e, c, sts, ch, rfl, _⟩ := cf_file_top env fuel file _ _ _ hev
  cases ht.symm.trans e
  simpa [ConsistentList] using c

/-- … and the same for every clause wherever it is evaluated: what a clause pushes is one line record that
    carries (a reading of) the status the clause returned, on top of consistent subtrees only -/
theorem C02_clause_records_consistent (env : Env) (fuel : Nat) (c : Clause) (st st' : St) (s : Status)
    (h : evalClause env fuel c st = .ok (s, st')) :
    ∃ ps, st'.recs = ps.reverse ++ st.recs ∧ ConsistentList ps = true ∧
      ∃ L, lineRecs ps = [L] ∧ s ∈ lineOptions L := by
  obtain ⟨ps, e, c', L, hl, hs, _⟩ := (allInv env fuel).clause c st s st' h
  exact ⟨ps, e, c', L, hl, hs⟩

end Guard.C02
