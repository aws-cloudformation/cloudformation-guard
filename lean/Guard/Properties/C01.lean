import Guard.Spec.Spec
import Guard.Model.Eval
import Guard.Lemmas.Order
/-
  C01 — rule verdicts equal the documented semantics.

  `Guard.Spec` is the independent reading of the documentation; `Guard.Model` mirrors the code.
  This file proves, layer by layer and for ALL values, that the two coincide where the
  documentation speaks:
    * unresolved left-hand sides FAIL every binary comparison under both polarities, satisfy
      `empty` and `!exists`; an empty selection makes the clause SKIP                    (Ops)
    * one scalar value against one scalar literal: the model's comparison layer yields exactly the
      checks of the Spec, for the four ordering operators and for `==`/`!=`            (Ops = Spec)
    * the aggregators of the model are the quantifiers / folds of the Spec             (Eval = Spec)
  The end-to-end statement `Impl.runFile = Spec.runFile` on the whole core fragment is kept below as
  `C01_refines_spec_statement`; what is PROVED of it is the layer lemmas, and it is CHECKED on every
  generated case by the Spec judge (implementation vs Spec) and the correspondence (implementation
  vs model).
-/
namespace Guard.C01
open Guard

/-- the per-value outcomes (`true` = the value check passed) a comparison result stands for -/
def verOutcomes : VER → List Bool
  | .lhsUnresolved _ => [false]
  | .cmp (.rhsUnresolved _ _) => [false]
  | .cmp (.notComparable _ _) => [false]
  | .cmp (.success (.queryIn _ lhs _)) => lhs.map fun _ => true
  | .cmp (.success _) => [true]
  | .cmp (.fail (.queryIn diff _ _)) => diff.map fun _ => false
  | .cmp (.fail _) => [false]

/-- `reportVER` (the records/outcomes `binary_operation` emits) agrees with `verOutcomes` -/
theorem reportVER_outcomes (op : CmpOp) (n : Bool) (m : Option Str) (v : VER) :
    (reportVER op n m v).map (fun t => t.2.2) = verOutcomes v := by
  cases v with
  | lhsUnresolved u => rfl
  | cmp r =>
    cases r with
    | success c => cases c <;> simp [reportVER, verOutcomes, List.map_map, Function.comp_def]
    | fail c => cases c <;> simp [reportVER, verOutcomes, List.map_map, Function.comp_def]
    | notComparable a b => rfl
    | rhsUnresolved u l => rfl

def allUnresolved (qs : List QR) : Prop := ∀ q ∈ qs, ∃ u, q = .unresolved u

theorem unresolved_selectors {qs : List QR} (h : allUnresolved qs) :
    flattenedVals qs = [] ∧ selectedVals qs = [] ∧ (unresolvedOf qs).length = qs.length := by
  induction qs with
  | nil => exact ⟨rfl, rfl, rfl⟩
  | cons q qs ih =>
    obtain ⟨u, rfl⟩ := h q List.mem_cons_self
    obtain ⟨f, s, l⟩ := ih fun q' hq' => h q' (List.mem_cons_of_mem _ hq')
    exact ⟨f, s, congrArg (· + 1) l⟩

theorem selected_unresolved {qs : List QR} (h : allUnresolved qs) : selectedVals qs = [] :=
  (unresolved_selectors h).2.1

theorem commonCompare_unresolved (c : PV → PV → Outcome Bool) {lhs : List QR} (rhs : List QR)
    (h : allUnresolved lhs) :
    commonCompare c lhs rhs = .ok (.result ((unresolvedOf lhs).map VER.lhsUnresolved)) := by
  simp [commonCompare, (unresolved_selectors h).1, mapMOutcome]

theorem mapM_flipVER_unresolved (env : Env) (op : CmpOp) (n m : Nat) (us : List UnResolved) :
    mapMOutcome (flipVER env op n m) (us.map VER.lhsUnresolved) = .ok (us.map VER.lhsUnresolved) := by
  induction us with
  | nil => rfl
  | cons u us ih => simp only [List.map_cons, mapMOutcome, flipVER, ih]

/-- **Unresolved paths count as FAIL for the ordering comparisons, under both polarities**: when
    every left-hand result is unresolved, `<`, `<=`, `>`, `>=` against any literal produce one
    failing check per result and nothing else. -/
theorem C01_unresolved_fail_ordering (env : Env) (op : CmpOp) (opNot : Bool) (lhs : List QR) (lit : PV)
    (hop : op ∈ [CmpOp.lt, .le, .gt, .ge]) (hne : lhs ≠ []) (h : allUnresolved lhs) :
    ∃ rs, cmpCompare env op opNot lhs [.literal lit] = .ok (.result rs) ∧
      rs.flatMap verOutcomes = lhs.map (fun _ => false) := by
  have hl : (lhs.isEmpty || [QR.literal lit].isEmpty) = false := by
    cases lhs <;> first | exact absurd rfl hne | rfl
  refine ⟨(unresolvedOf lhs).map VER.lhsUnresolved, ?_, ?_⟩
  · rw [cmpCompare, opCompare_ordering env hop hl, commonCompare_unresolved _ _ h]
    cases opNot
    · rfl
    · simp only [mapM_flipVER_unresolved]; rfl
  · rw [List.flatMap_map, List.map_const', ← (unresolved_selectors h).2.2, ← List.map_const']
    exact List.map_eq_flatMap.symm

/-- **Unresolved paths satisfy `empty` and `!exists`** (and fail `exists`, `!empty` and every
    `is_*` test). -/
theorem C01_unresolved_unary (u : UnResolved) :
    unaryCheck .empty false false (.unresolved u) = .ok true ∧
    unaryCheck .exists_ true false (.unresolved u) = .ok true ∧
    unaryCheck .exists_ false false (.unresolved u) = .ok false ∧
    unaryCheck .empty true false (.unresolved u) = .ok false ∧
    (∀ op ∈ [CmpOp.isString, .isList, .isMap, .isBool, .isInt, .isFloat, .isNull],
        unaryCheck op false false (.unresolved u) = .ok false) := by
  refine ⟨rfl, rfl, rfl, rfl, ?_⟩
  intro op hop
  simp only [List.mem_cons, List.mem_nil_iff, or_false] at hop
  rcases hop with rfl | rfl | rfl | rfl | rfl | rfl | rfl <;> rfl

/-- … and the Spec says the same about a missing value. -/
theorem C01_spec_missing_unary :
    Spec.unaryHolds .empty .missing = .ok true ∧ Spec.unaryHolds .exists_ .missing = .ok false := ⟨rfl, rfl⟩

theorem cmpCompare_skip_of_empty (env : Env) (op : CmpOp) (opNot : Bool) {lhs rhs : List QR}
    (h : (lhs.isEmpty || rhs.isEmpty) = true) : cmpCompare env op opNot lhs rhs = .ok .skip := by
  simp [cmpCompare, opCompare, h]

/-- **An empty selection makes the clause SKIP**: the comparison layer answers `Skip` whenever
    either side selected nothing (only filters can do that), for every operator and polarity. -/
theorem C01_empty_selection_skip (env : Env) (op : CmpOp) (opNot : Bool) (rhs : List QR) :
    cmpCompare env op opNot [] rhs = .ok .skip :=
  cmpCompare_skip_of_empty env op opNot rfl

/-- `empty` on a number or on null is undefined in both the model and the Spec (an error). -/
theorem C01_empty_on_number_undefined (p : Path) (i : Int) :
    unaryCheck .empty false false (.resolved (.int p i)) = .err .IncompatibleError ∧
    Spec.unaryHolds .empty (.val (.int p i)) = .undefined := ⟨rfl, rfl⟩

/-- scalars of the document/literal language that are not lists or maps -/
def plainScalar : PV → Bool
  | .null _ | .bool _ _ | .int _ _ | .float _ _ | .str _ _ => true
  | _ => false

/-- `Spec.order` is `compareValues` without the chars -/
theorem compareValues_eq_order {x y : PV} (hx : plainScalar x = true) :
    compareValues x y = match Spec.order x y with | some o => .ok o | none => .err .NotComparable := by
  unfold compareValues
  split  -- arms of `compareValues`: null, int, str, float, char (`h_5`), every other pair (`h_6`)
  case h_5 => cases hx
  case h_6 h1 h2 h3 h4 _ =>
    have : Spec.order x y = none := by
      unfold Spec.order
      split
      · exact (h2 _ _ _ _ rfl rfl).elim
      · exact (h4 _ _ _ _ rfl rfl).elim
      · exact (h3 _ _ _ _ rfl rfl).elim
      · exact (h1 _ _ rfl rfl).elim
      · rfl
    rw [this]
  all_goals rfl

theorem plainScalar_flat {z : PV} (hz : plainScalar z = true) : z.isList = false ∧ Spec.flat1 z = [z] := by
  cases z <;> first | exact ⟨rfl, rfl⟩ | cases hz

/-- **Ordering operators, one scalar value vs one scalar literal**: the model produces exactly one
    value check and it passes iff the Spec's check passes — for `<`, `<=`, `>`, `>=`, both
    polarities, all ints / floats / strings / nulls / bools (incomparable pairs FAIL both ways). -/
theorem C01_scalar_ordering_refines (env : Env) (op : CmpOp) (negated : Bool) (x y : PV)
    (hop : op ∈ [CmpOp.lt, .le, .gt, .ge]) (hx : plainScalar x = true) (hy : plainScalar y = true) :
    ∃ v, cmpCompare env op negated [.resolved x] [.literal y] = .ok (.result [v]) ∧
      Spec.binaryChecks env op negated x y = .ok (verOutcomes v) := by
  obtain ⟨lx, fx⟩ := plainScalar_flat hx
  obtain ⟨ly, fy⟩ := plainScalar_flat hy
  refine ⟨_, cmpCompare_ordering_single env hop negated lx ly, ?_⟩
  have spec : Spec.binaryChecks env op negated x y =
      .ok [Spec.chk negated ((Spec.order x y).map (opTest op))] := by
    simp only [List.mem_cons, List.mem_nil_iff, or_false] at hop
    rcases hop with rfl | rfl | rfl | rfl <;>
      simp only [Spec.binaryChecks, fx, fy, List.flatMap_cons, List.flatMap_nil, List.map_cons, List.map_nil,
        List.append_nil] <;> rfl
  rw [spec, ordCheck, compareValues_eq_order hx]
  cases Spec.order x y with
  | none => rfl
  | some o => simp only [Spec.chk, Option.map_some]; cases opTest op o != negated <;> rfl

/-- the clause quantifier of the model is the Spec's (`all`: every check, `some`: at least one) -/
theorem C01_quantifier_refines (all : Bool) (checks : List Bool) :
    clauseStatus all checks = Spec.quant all checks := by
  have e1 : (fun b : Bool => b == false) = (!·) := funext fun b => by cases b <;> rfl
  have e2 : (fun b : Bool => b == true) = id := funext fun b => by cases b <;> rfl
  rw [clauseStatus, Spec.quant, e1, e2, List.all_eq_not_any_not]
  cases all <;> simp

/-- the body / file fold of the model is the Spec's three-valued fold -/
theorem C01_fold_refines (sts : List Status) : bodyStatus sts = Spec.fold3 sts := by
  simp only [bodyStatus, Spec.fold3, List.any_beq']

/-- `some` blocks -/
theorem C01_some_block_refines (sts : List Status) :
    someStatus sts = (if sts.contains .pass then .pass else if sts.contains .fail then .fail else .skip) := by
  simp only [someStatus, List.any_beq']

/-- named-rule clauses -/
theorem C01_named_refines (neg : Bool) (s : Status) :
    namedStatus neg s = (if (s == .pass) != neg then .pass else .fail) := by
  cases s <;> cases neg <;> rfl

/-- The end-to-end refinement on the core fragment, as a statement (proved layer-wise above,
    checked on every generated case by the judge; see DESIGN.md §5 C01). -/
def C01_refines_spec_statement : Prop :=
  ∀ (env : Env) (file : RulesFile) (doc : PV) (rs : List (Str × Status)) (s : Status),
    Spec.runFile env 4000 file doc = .ok (rs, s) →
    ∀ fuel t, runFile env fuel file doc = .ok (s, t) → ruleStatuses t = rs

-- Non-vacuity of the hypotheses
example : plainScalar (.int Path.root 5) = true ∧ plainScalar (.str Path.root "a".toList) = true := ⟨rfl, rfl⟩
example : allUnresolved [.unresolved ⟨.null Path.root, []⟩] := by
  intro q hq; simp at hq; exact ⟨_, hq⟩

end Guard.C01
