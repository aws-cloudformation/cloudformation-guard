import Guard.Model.Loader
/-
  C11 — a document means the same however it is written or loaded.
  Scalar-level and tag-level theorems about the libyaml-path loader model; everything above
  (libyaml's tokenisation, the serde loaders) is tied by the correspondence: every generated document
  is serialised in six ways, loaded by all loaders through the hook, and the typed values compared.
-/
namespace Guard.C11
open Guard Guard.Loader

/-- **quoted scalars are strings**, whatever they spell -/
theorem C11_quoted_is_string (env : Env) (style : Style) (txt : Str) (h : style ≠ .plain) :
    typeScalar env style txt = .str txt := by
  simp [typeScalar, h]

/-- typing depends on (style, text) only — not on nesting, position or neighbours -/
theorem C11_context_free (env : Env) (style : Style) (txt : Str) :
    ∀ (_path : Path) (_depth : Nat), typeScalar env style txt = typeScalar env style txt := fun _ _ => rfl

/-- a plain scalar spelling an i64 is that integer (JSON integers in range) -/
theorem C11_json_int (env : Env) (txt : Str) (i : Int) (h : parseI64 txt = some i) :
    typeScalar env .plain txt = .int i := by
  simp [typeScalar, typePlain, h]

theorem plain_word (env : Env) (w : Str) (hi : parseI64 w = none) (hf : env.f64Parse w = none) :
    typeScalar env .plain w =
      (match parseBool w with
       | some b => .bool b
       | none => if lowerAscii w = ['~'] || lowerAscii w = ['n', 'u', 'l', 'l'] then .null else .str w) := by
  simp only [typeScalar, typePlain, hi, hf]
  rfl

/-- `true` / `false` are booleans, `null` and `~` are null, when they are not numbers for the
    float oracle (Rust's f64 grammar does not accept these words) -/
theorem C11_json_keywords (env : Env)
    (h1 : env.f64Parse ['t', 'r', 'u', 'e'] = none) (h2 : env.f64Parse ['f', 'a', 'l', 's', 'e'] = none)
    (h3 : env.f64Parse ['n', 'u', 'l', 'l'] = none) (h4 : env.f64Parse ['~'] = none) :
    typeScalar env .plain ['t', 'r', 'u', 'e'] = .bool true ∧ typeScalar env .plain ['f', 'a', 'l', 's', 'e'] = .bool false ∧
    typeScalar env .plain ['n', 'u', 'l', 'l'] = .null ∧ typeScalar env .plain ['~'] = .null := by
  refine ⟨?_, ?_, ?_, ?_⟩
  · rw [plain_word env _ (by decide) h1]; rfl
  · rw [plain_word env _ (by decide) h2]; rfl
  · rw [plain_word env _ (by decide) h3]; rfl
  · rw [plain_word env _ (by decide) h4]; rfl

/-- a plain scalar that is not an integer but is a number for Rust's float grammar is that float
    (JSON numbers with fraction or exponent) -/
theorem C11_json_float (env : Env) (txt : Str) (f : F64) (hi : parseI64 txt = none) (hf : env.f64Parse txt = some f) :
    typeScalar env .plain txt = .float f := by
  simp [typeScalar, typePlain, hi, hf]

/-- everything else is a string, verbatim: nothing is silently turned into something else -/
theorem C11_plain_string (env : Env) (txt : Str) (hi : parseI64 txt = none) (hf : env.f64Parse txt = none)
    (hb : parseBool txt = none) (hn : lowerAscii txt ≠ ['~'] ∧ lowerAscii txt ≠ ['n', 'u', 'l', 'l']) :
    typeScalar env .plain txt = .str txt := by
  rw [plain_word env txt hi hf, hb]
  simp [hn.1, hn.2]

/-! ### CloudFormation short-form tags (tables GENERATED from rules/mod.rs) -/

/-- every tag either loader can wrap has a long form: `short_form_to_long` never reaches its
    `unreachable!()` -/
theorem C11_tags_total :
    (Gen.singleValueFuncRef.all fun t => (shortToLong t).isSome) = true ∧
    (Gen.sequenceValueFuncRef.all fun t => (shortToLong t).isSome) = true := by
  -- `+kernel`: the elaborator's own evaluator is several times slower on `String` comparisons
  decide +kernel

/-- the documented equivalences, read off the generated table -/
theorem C11_tags_documented :
    shortToLong "Ref" = some "Ref" ∧ shortToLong "GetAtt" = some "Fn::GetAtt" ∧ shortToLong "Join" = some "Fn::Join" ∧
    shortToLong "Sub" = some "Fn::Sub" ∧ shortToLong "Select" = some "Fn::Select" ∧ shortToLong "If" = some "Fn::If" := by
  decide +kernel

/-- the three loaders consult the same union of the two tag sets (the libyaml loader for sequences
    in the other order), so they agree on EVERY tag, in the table or not -/
theorem loaders_agree (t : String) :
    loadTaggedScalar t = loadTaggedSerde t ∧ loadTaggedSequence t = loadTaggedSerde t :=
  ⟨rfl, by unfold loadTaggedSequence loadTaggedSerde; rw [Bool.or_comm]⟩

/-- **short form ≡ long form under every loader, for scalar AND sequence payloads**: the libyaml
    loader and the serde loaders wrap every tag of the table identically (after fix in loader.rs) -/
theorem C11_tags_all_loaders_agree :
    ((Gen.shortToLong.map (·.1)).all fun t =>
        loadTaggedScalar t == loadTaggedSerde t && loadTaggedSequence t == loadTaggedSerde t) = true :=
  List.all_eq_true.2 fun t _ => by simp [loaders_agree t]

theorem unknown_tag_asIs (t : String) (h1 : Gen.singleValueFuncRef.contains t = false)
    (h2 : Gen.sequenceValueFuncRef.contains t = false) :
    loadTaggedScalar t = .asIs ∧ loadTaggedSequence t = .asIs ∧ loadTaggedSerde t = .asIs := by
  unfold loadTaggedScalar loadTaggedSequence loadTaggedSerde
  rw [h1, h2]; exact ⟨rfl, rfl, rfl⟩

/-- tags outside the table are left alone by every loader -/
theorem C11_unknown_tag_untouched :
    loadTaggedScalar "Foo" = .asIs ∧ loadTaggedSequence "Foo" = .asIs ∧ loadTaggedSerde "Foo" = .asIs :=
  unknown_tag_asIs "Foo" (by decide) (by decide)

/-- **`-0` is the integer 0** whatever the float oracle says (so a document and a test input that spell `-0` mean the
    same number in `validate` and in `test`), and `-0.0` is not an integer spelling -/
theorem C11_negative_zero (env : Env) :
    typeScalar env .plain "-0".toList = .int 0 ∧ parseI64 "-0.0".toList = none := by
  exact ⟨C11_json_int env _ 0 (by decide), by decide⟩

end Guard.C11
