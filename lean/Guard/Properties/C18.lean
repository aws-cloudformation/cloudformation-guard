import Guard.Model.Functions
/-
  C18 — built-in functions compute what their documentation says.
  Theorems about `Guard.Model.Functions` (the mirror of functions/*.rs and of the argument
  dispatch in eval_context.rs), for all argument lists.
-/
namespace Guard.C18
open Guard

def isUnresolved : QR → Bool | .unresolved _ => true | _ => false

@[simp] theorem ok_bind {α β} (a : α) (f : α → Outcome β) : (Outcome.ok a >>= f) = f a := rfl

theorem bind_eq_ok {α β} {x : Outcome α} {g : α → Outcome β} {b : β} (h : x >>= g = .ok b) :
    ∃ a, x = .ok a ∧ g a = .ok b := by
  cases x with
  | ok a => exact ⟨a, rfl, h⟩
  | _ => cases h

/-- `count(q)` is the number of resolved values of `q`. -/
theorem C18_count (args : List QR) :
    ∃ p, countFn args = .int p ((args.filter fun q => !isUnresolved q).length) :=
  ⟨_, congrArg (fun l => PV.int (firstPath args) (List.length l))
    (List.filter_congr fun q _ => by cases q <;> rfl)⟩

theorem perValue_cons (f : PV → Outcome (Option PV)) (q : QR) (qs : List QR) :
    perValue f (q :: qs) =
      (match q with | .literal v | .resolved v => f v | .unresolved _ => .ok none) >>= fun o =>
      perValue f qs >>= fun t => .ok (o :: t) := by
  simp only [perValue]
  cases q with
  | unresolved u => cases perValue f qs <;> rfl
  | _ v =>
    dsimp only
    cases f v with
    | ok o => cases perValue f qs <;> rfl
    | _ => rfl

theorem perValue_one_ok {f : PV → Outcome (Option PV)} {v : PV} {o} (h : f v = .ok o) :
    perValue f [.resolved v] = .ok [o] :=
  (perValue_cons f _ []).trans (congrArg (· >>= _) h)

theorem perValue_head_err {f : PV → Outcome (Option PV)} {v : PV} {e} (h : f v = .err e) (qs : List QR) :
    perValue f (.resolved v :: qs) = .err e :=
  (perValue_cons f _ qs).trans (congrArg (· >>= _) h)

/-- element-wise functions: one output slot per argument member, in query order; unresolved
    members and members the function does not support yield an empty slot (they are skipped). -/
theorem C18_elementwise (f : PV → Outcome (Option PV)) (args : List QR) (out : List (Option PV))
    (h : perValue f args = .ok out) :
    out.length = args.length ∧
    ∀ i (hi : i < args.length) (ho : i < out.length),
      (match args[i] with
       | .unresolved _ => out[i] = none
       | .literal v | .resolved v => f v = .ok out[i]) := by
  induction args generalizing out with
  | nil => cases h; exact ⟨rfl, nofun⟩
  | cons q qs ih =>
    rw [perValue_cons] at h
    obtain ⟨o, ho, h⟩ := bind_eq_ok h
    obtain ⟨t, ht, h⟩ := bind_eq_ok h
    cases h
    obtain ⟨hl, he⟩ := ih t ht
    refine ⟨congrArg (· + 1) hl, fun i hi _ => ?_⟩
    cases i with
    | zero =>
      cases q with
      | unresolved => exact (Outcome.ok.inj ho).symm
      | _ => exact ho
    | succ j => exact he j (Nat.lt_of_succ_lt_succ hi) _

def Ascii (s : Str) : Prop := ∀ c ∈ s, c.toNat < 128

theorem Ascii.tail {c : Char} {cs : Str} (h : Ascii (c :: cs)) : Ascii cs :=
  fun x hx => h x (List.mem_cons_of_mem _ hx)

theorem utf8Len_ascii (s : Str) (h : Ascii s) : s.utf8Len = s.length := by
  induction s with
  | nil => rfl
  | cons c cs ih =>
    have hc : Guard.utf8Len c = 1 := if_pos (h c List.mem_cons_self)
    simp only [Str.utf8Len, List.map_cons, List.sum_cons, List.length_cons, hc] at ih ⊢
    rw [ih h.tail, Nat.add_comm]

theorem bytes_ascii (s : Str) (h : Ascii s) (n : Nat) (hn : n ≤ s.length) :
    s.dropBytes n = some (s.drop n) ∧ s.takeBytes n = some (s.take n) := by
  induction s generalizing n with
  | nil => cases n with
    | zero => exact ⟨rfl, rfl⟩
    | succ => cases hn
  | cons c cs ih =>
    cases n with
    | zero => exact ⟨rfl, rfl⟩
    | succ k =>
      have hc : Guard.utf8Len c = 1 := if_pos (h c List.mem_cons_self)
      obtain ⟨hd, ht⟩ := ih h.tail k (Nat.le_of_succ_le_succ hn)
      simp only [Str.dropBytes, Str.takeBytes, hc, Nat.le_add_left, ↓reduceIte, Nat.add_sub_cancel, hd, ht]
      exact ⟨rfl, rfl⟩

/-- **`substring(s, i, j)` is characters i..j of an ASCII string; strings for which the offsets
    are out of range are skipped** — for offsets of any size. -/
theorem C18_substring (s : Str) (i j : Nat) (h : Ascii s) :
    substringOne s i j = (if i < j ∧ j ≤ s.length then some ((s.drop i).take (j - i)) else none) := by
  simp only [substringOne, utf8Len_ascii s h, Bool.and_eq_true, decide_eq_true_eq, Bool.not_eq_true']
  by_cases hc : i < j ∧ j ≤ s.length
  · have hi : i ≤ s.length := Nat.le_trans (Nat.le_of_lt hc.1) hc.2
    have hne : s.isEmpty = false := by
      cases s with
      | nil => exact absurd (Nat.lt_of_lt_of_le hc.1 hc.2) (Nat.not_lt_zero _)
      | cons => rfl
    rw [if_pos ⟨⟨⟨hne, hc.1⟩, hi⟩, hc.2⟩, if_pos hc, (bytes_ascii s h i hi).1]
    exact (bytes_ascii _ (fun c hc => h c (List.mem_of_mem_drop hc)) _
      (List.length_drop ▸ Nat.sub_le_sub_right hc.2 i)).2
  · rw [if_neg fun h' => hc ⟨h'.1.1.2, h'.2⟩, if_neg hc]

/-- offsets: an int that does not fit (negative, or huge) is out of range for every string; no
    wrap-around (fix 8baf9b1) -/
theorem C18_offset_no_wrap (p : Path) (n : Int) :
    offsetOf (.literal (.int p n)) = some (if 0 ≤ n then n.toNat else USIZE_MAX) := rfl

theorem joinFn_go_str (p : Path) (s : Str) (qs : List QR) :
    joinFn.go (.resolved (.str p s) :: qs) = joinFn.go qs >>= fun t => .ok (s :: t) := by
  simp only [joinFn.go]; cases joinFn.go qs <;> rfl

/-- `join` concatenates in query order with the delimiter between elements -/
theorem C18_join_strings (ps : List (Path × Str)) (d : Str) :
    ∃ p, joinFn (ps.map fun e => QR.resolved (.str e.1 e.2)) d = .ok (.str p (List.intercalate d (ps.map (·.2)))) := by
  have : joinFn.go (ps.map fun e => QR.resolved (.str e.1 e.2)) = .ok (ps.map (·.2)) := by
    induction ps with
    | nil => rfl
    | cons e es ih => rw [List.map_cons, joinFn_go_str, ih]; rfl
  exact ⟨_, by rw [joinFn, this]⟩

/-- … and any non-string or unresolved member is an error, not a partial result -/
theorem C18_join_error (pre : List (Path × Str)) (bad : QR) (post : List QR) (d : Str)
    (hb : ∀ p s, bad ≠ .resolved (.str p s) ∧ bad ≠ .literal (.str p s)) :
    joinFn ((pre.map fun e => QR.resolved (.str e.1 e.2)) ++ bad :: post) d = .err .IncompatibleError := by
  have : joinFn.go ((pre.map fun e => QR.resolved (.str e.1 e.2)) ++ bad :: post) = .err .IncompatibleError := by
    induction pre with
    | nil =>
      show joinFn.go (bad :: post) = _
      unfold joinFn.go
      split
      · exact absurd rfl (hb _ _).1
      · exact absurd rfl (hb _ _).2
      · rfl
    | cons e es ih => rw [List.map_cons, List.cons_append, joinFn_go_str, ih]; rfl
  rw [joinFn, this]

/-- digits of a natural number, most significant first -/
def digitsRev : Nat → Nat → List Nat
  | 0, _ => []
  | fuel + 1, n => if n < 10 then [n] else (n % 10) :: digitsRev fuel (n / 10)
def natDigits (n : Nat) : List Nat := (digitsRev (n + 1) n).reverse
def ofDigits (ds : List Nat) : Nat := ds.foldl (fun a d => a * 10 + d) 0

theorem ofDigits_append (a : List Nat) (d : Nat) : ofDigits (a ++ [d]) = ofDigits a * 10 + d :=
  List.foldl_append

theorem digitsRev_spec (fuel n : Nat) (h : n < fuel) : ofDigits (digitsRev fuel n).reverse = n := by
  induction fuel generalizing n with
  | zero => cases h
  | succ f ih =>
    unfold digitsRev
    split
    · exact Nat.zero_add n
    · rw [List.reverse_cons, ofDigits_append, ih _ (by omega)]
      exact Nat.div_add_mod' n 10

/-- **decimal printing followed by decimal parsing is the identity** (the arithmetic core of
    `parse_int(parse_string(n)) = n`; no size bound) -/
theorem C18_roundtrip_digits (n : Nat) : ofDigits (natDigits n) = n :=
  digitsRev_spec (n + 1) n (by omega)

-- In the theorems below `callFunction env name [[.resolved v]]` unfolds to `.ok [.resolved v] >>= perValue f`
-- with `f` the per-value function of `name`; `ok_bind` exposes `perValue f [.resolved v]`.

/-- `parse_int` of a string is the integer the string denotes or an error — never another value -/
theorem C18_parse_int_string (env : Env) (p : Path) (s : Str) :
    callFunction env .parseInt [[.resolved (.str p s)]] =
      (match parseI64 s with
       | some i => .ok [some (.int p i)]
       | none => .err .ParseError) := by
  refine (ok_bind _ _).trans ((perValue_cons _ _ []).trans ?_)
  dsimp only
  cases parseI64 s <;> rfl

/-- `parse_boolean`, `parse_char`: unparsable input is an error -/
theorem C18_converters_error_not_wrong (env : Env) (p : Path) (s : Str) :
    (env.lower s ≠ "true".toList → env.lower s ≠ "false".toList →
        callFunction env .parseBoolean [[.resolved (.str p s)]] = .err .ParseError) ∧
    (s.utf8Len > 1 → callFunction env .parseChar [[.resolved (.str p s)]] = .err .ParseError) ∧
    (env.f64Parse s = none → callFunction env .parseFloat [[.resolved (.str p s)]] = .err .ParseError) ∧
    (env.parseEpoch s = none → callFunction env .parseEpoch [[.resolved (.str p s)]] = .err .ParseError) :=
  ⟨fun h1 h2 => (ok_bind _ _).trans (perValue_head_err ((if_neg h1).trans (if_neg h2)) _),
   fun h => (ok_bind _ _).trans (perValue_head_err (if_pos h) _),
   fun h => (ok_bind _ _).trans (perValue_head_err (by simp only [h]) _),
   fun h => (ok_bind _ _).trans (perValue_head_err (by simp only [h]) _)⟩

/-- values of unsupported type are skipped by the string functions (no error, no value) -/
theorem C18_unsupported_skipped (env : Env) (p : Path) (i : Int) :
    callFunction env .toUpper [[.resolved (.int p i)]] = .ok [none] ∧
    callFunction env .toLower [[.resolved (.int p i)]] = .ok [none] ∧
    callFunction env .urlDecode [[.resolved (.int p i)]] = .ok [none] ∧
    callFunction env .jsonParse [[.resolved (.int p i)]] = .ok [none] :=
  ⟨rfl, rfl, rfl, rfl⟩

-- Non-vacuity
example : Ascii "hello".toList := by intro c hc; simp at hc; rcases hc with rfl | rfl | rfl | rfl | rfl <;> decide
example : substringOne "hello".toList 1 3 = some "el".toList := by decide
example : substringOne "hello".toList 65537 65539 = none := by decide

/-- **`parse_char` on integers: the ten digits and nothing else** - for EVERY integer (no wrap-around at 2^32 or
    anywhere): 0..9 give the digit character, every other integer is a ParseError -/
theorem C18_parse_char_int (env : Env) (p : Path) (i : Int) :
    (0 ≤ i ∧ i ≤ 9 → callFunction env .parseChar [[.resolved (.int p i)]] =
        .ok [some (.char p (Char.ofNat ('0'.toNat + i.toNat)))]) ∧
    ((i < 0 ∨ 9 < i) → callFunction env .parseChar [[.resolved (.int p i)]] = .err .ParseError) :=
  ⟨fun h => (ok_bind _ _).trans (perValue_one_ok
      (if_neg (by simp only [Bool.or_eq_true, decide_eq_true_eq]; omega))),
   fun h => (ok_bind _ _).trans (perValue_head_err (if_pos (by simpa using h)) _)⟩

example (env : Env) : callFunction env .parseChar [[.resolved (.int Path.root 4294967301)]] = .err .ParseError :=
  (C18_parse_char_int env Path.root 4294967301).2 (Or.inr (by decide))

end Guard.C18
