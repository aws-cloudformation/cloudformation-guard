import Guard.Lemmas.FramesEval
/-
  C15 — variables and parameterised rules are transparent abstractions.

  Proved here, on the evaluator model, for every scope state:
    * a literal variable resolves to exactly its literal, without touching the state — so a
      clause comparing against `%v` computes with the same right-hand side as the clause written
      with the literal in place                                                (`C15_literal_*`)
    * a memoised variable returns what was stored and leaves the state unchanged: every later
      reference sees the value the first one computed                          (`C15_memo_hit`)
    * value scopes and parameter contexts are transparent for names they do not bind; an inner
      block's literal shadows outer definitions                                (`C15_*_transparent`, `C15_shadow`)
    * a parameter resolves to the argument's result set                        (`C15_param`)
  The general substitution statement (a QUERY variable ≡ its query written in place, at file,
  rule and block scope, for every program) is NOT proved: it needs the memo-soundness invariant
  over the whole fuel-indexed evaluator (DESIGN §5 C01 stage 4).  It is checked on every generated
  abstraction site by the judge (implementation verdicts of program vs abstracted program), so the
  claim for C15 is partial in exactly that sense.
-/
namespace Guard.C15
open Guard

/-- a literal `let` in the innermost block scope resolves to that literal; state untouched -/
theorem C15_literal_variable (env : Env) (fuel : Nat) (name : Str) (v : PV) (b : BlockFrame)
    (rest : List Frame) (st : St) (hf : st.frames = .block b :: rest) (hl : alLookup name b.lits = some v) :
    resolveVariable env (fuel + 1) name st = .ok ([.literal v], st) := by
  simp only [resolveVariable, hf, hl]

/-- every later reference to a resolved variable sees the stored value; state untouched -/
theorem C15_memo_hit (env : Env) (fuel : Nat) (name : Str) (vals : List QR) (b : BlockFrame)
    (rest : List Frame) (st : St) (hf : st.frames = .block b :: rest)
    (hl : alLookup name b.lits = none) (hm : alLookup name b.memo = some vals) :
    resolveVariable env (fuel + 1) name st = .ok (vals, st) := by
  simp only [resolveVariable, hf, hl, hm]

/-- an inner literal definition shadows whatever the outer scopes define -/
theorem C15_shadow (env : Env) (fuel : Nat) (name : Str) (v : PV) (b : BlockFrame)
    (outer outer' : List Frame) (st st' : St)
    (hf : st.frames = .block b :: outer) (hf' : st'.frames = .block b :: outer')
    (hl : alLookup name b.lits = some v) :
    (resolveVariable env (fuel + 1) name st).isOk = true ∧
    (∃ r, resolveVariable env (fuel + 1) name st = .ok (r, st) ∧ resolveVariable env (fuel + 1) name st' = .ok (r, st')) := by
  rw [C15_literal_variable env fuel name v b outer st hf hl, C15_literal_variable env fuel name v b outer' st' hf' hl]
  exact ⟨rfl, _, rfl, rfl⟩

/-- a value scope binds nothing: resolution is delegated to the enclosing scopes and the scope
    is put back -/
theorem C15_value_scope_transparent (env : Env) (fuel : Nat) (name : Str) (root : PV)
    (f : Frame) (rest : List Frame) (st : St) (hf : st.frames = .value root :: f :: rest)
    (r : List QR) (st' : St)
    (h : resolveVariable env fuel name { st with frames := f :: rest } = .ok (r, st')) :
    resolveVariable env (fuel + 1) name st = .ok (r, { st' with frames := .value root :: st'.frames }) := by
  simp only [resolveVariable, hf, h, List.isEmpty_cons, Bool.false_eq_true, ↓reduceIte]

/-- a parameter of a parameterised rule resolves to the argument's result set -/
theorem C15_param (env : Env) (fuel : Nat) (name : Str) (ps : List (Str × List QR)) (vals : List QR)
    (rest : List Frame) (st : St) (hf : st.frames = .params ps :: rest) (hp : alLookup name ps = some vals) :
    resolveVariable env (fuel + 1) name st = .ok (vals, st) := by
  simp only [resolveVariable, hf, hp]

/-- … and a parameter context is transparent for every other name -/
theorem C15_param_transparent (env : Env) (fuel : Nat) (name : Str) (ps : List (Str × List QR))
    (f : Frame) (rest : List Frame) (st : St) (hf : st.frames = .params ps :: f :: rest)
    (hp : alLookup name ps = none) (r : List QR) (st' : St)
    (h : resolveVariable env fuel name { st with frames := f :: rest } = .ok (r, st')) :
    resolveVariable env (fuel + 1) name st = .ok (r, { st' with frames := .params ps :: st'.frames }) := by
  simp only [resolveVariable, hf, hp, h, List.isEmpty_cons, Bool.false_eq_true, ↓reduceIte]

/-- an unbound name is an evaluation error (never a silently empty value) -/
theorem C15_unbound_is_error (env : Env) (fuel : Nat) (name : Str) (b : BlockFrame) (st : St)
    (hf : st.frames = [.block b]) (h1 : alLookup name b.lits = none) (h2 : alLookup name b.memo = none)
    (h3 : alLookup name b.funs = none) (h4 : alLookup name b.queries = none) :
    resolveVariable env (fuel + 1) name st = .err .MissingValue := by
  simp only [resolveVariable, hf, h1, h2, h3, h4, List.isEmpty_nil, ↓reduceIte]

/-- the documented exception: the emptiness test on a bare variable tests the result SET —
    it holds of the empty set and, on a non-empty set, member-wise "is null or unresolved" -/
theorem C15_empty_exception (opNot inverse : Bool) :
    emptyExprNoValue false false = true ∧ emptyExprNoValue true false = false ∧
    (∀ v, emptyExprCheck false false (.resolved v) = v.isNull) ∧
    (∀ u, emptyExprCheck false false (.unresolved u) = true) ∧
    emptyExprNoValue opNot inverse = ((true != opNot) != inverse) := by
  refine ⟨rfl, rfl, ?_, ?_, rfl⟩
  · intro v; simp [emptyExprCheck]
  · intro u; simp [emptyExprCheck]

/-- **evaluation does not disturb the scopes a variable is resolved against**: whatever clause is
    evaluated, in whatever state, afterwards the scope stack has the same frames: the same roots, the
    same variable definitions (`let` tables) and the same parameter bindings — only memo tables grew.
    (All 17 functions of the evaluator: `allPres`.) -/
theorem C15_scopes_stable (env : Env) (fuel : Nat) (c : Clause) (st st' : St) (s : Status)
    (h : evalClause env fuel c st = .ok (s, st')) :
    FramesSim st.frames st'.frames ∧ rootOfFrames st'.frames = rootOfFrames st.frames :=
  ((allPres env fuel).clause c).sim_root h

/-- resolving a variable leaves the scopes as they were: later references are resolved against the same
    definitions -/
theorem C15_resolution_keeps_definitions (env : Env) (fuel : Nat) (name : Str) (st st' : St) (r : List QR)
    (h : resolveVariable env fuel name st = .ok (r, st')) : FramesSim st.frames st'.frames :=
  (allPres env fuel).rvar name st r st' h

/-- a block scope's variable tables are unchanged by anything evaluated inside it -/
theorem C15_let_tables_unchanged (env : Env) (fuel : Nat) (cnf : Cnf) (b : BlockFrame) (rest : List Frame) (st st' : St)
    (s : Status) (hf : st.frames = .block b :: rest) (h : evalCnf env fuel cnf st = .ok (s, st')) :
    ∃ b' rest', st'.frames = .block b' :: rest' ∧ b'.root = b.root ∧ b'.lits = b.lits ∧ b'.queries = b.queries ∧
      b'.funs = b.funs := by
  obtain ⟨b', gs, e, ⟨h1, h2, h3, h4⟩, _⟩ := FramesSim.block_inv (hf ▸ (allPres env fuel).cnf cnf st s st' h)
  exact ⟨b', gs, e, h1.symm, h2.symm, h3.symm, h4.symm⟩

/-- where retrieval continues after a variable head: the `[*]` the parser inserts after a variable is skipped -/
def afterVariable (rest : List QueryPart) : Nat :=
  match rest with
  | .allIndices _ :: _ => 2
  | _ => 1

/-- `afterVariable` is the evaluator's own `index` -/
theorem afterVariable_eq (p : QueryPart) (rest : List QueryPart) :
    afterVariable rest = match (p :: rest)[1]? with | some (.allIndices _) => 2 | _ => 1 := by
  cases rest with
  | nil => rfl
  | cons q _ => cases q <;> rfl

/-- **a query that starts with a variable continues on EACH value the variable holds, separately**: after the `[*]` the
    parser inserts, the rest of the query is evaluated once per held value (an index after a variable indexes every
    held value, never the result set); for every continuation, state and fuel -/
theorem C15_variable_head_each_value (env : Env) (fuel : Nat) (name : Str) (rest : List QueryPart)
    (current : PV) (conv : Option Nat) :
    queryRetrieval env (fuel + 1) 0 (.key ('%' :: name) :: rest) current conv =
      (do
        let retrieved ← resolveVariable env fuel name
        let rows ← retrieved.mapM fun each =>
          match each with
          | .unresolved ur => pure [QR.unresolved ur]
          | .literal v | .resolved v =>
            if afterVariable rest < rest.length + 1 then
              withValueScope v (queryRetrieval env fuel (afterVariable rest) (.key ('%' :: name) :: rest) v conv)
            else pure [each]
        pure rows.flatten) := by
  -- no `simp` here: the unfolded body of `queryRetrieval` is large; the head test is decided by `rfl`
  rw [queryRetrieval, afterVariable_eq (.key ('%' :: name)) rest]
  exact if_pos rfl

theorem mapM_singleton_flatten {α β} (f : α → M (List β)) (x : α) :
    (do let rows ← [x].mapM f; pure rows.flatten) = f x := by
  simp [List.mapM_cons, List.mapM_nil]

/-- `hlt`: `rest` is not exhausted by the skipped `[*]`; the parser always puts `[*]` after a variable head
    (parser.rs:929-936), and that is the case `afterVariable rest = 2` -/
theorem literal_head (env : Env) (fuel : Nat) (name : Str) (rest : List QueryPart) (v : PV) (b : BlockFrame)
    (fr : List Frame) (current : PV) (conv : Option Nat) (st : St) (hf : st.frames = .block b :: fr)
    (hl : alLookup name b.lits = some v) (hlt : afterVariable rest < rest.length + 1) :
    queryRetrieval env (fuel + 2) 0 (.key ('%' :: name) :: rest) current conv st =
      (withValueScope v (queryRetrieval env (fuel + 1) (afterVariable rest) (.key ('%' :: name) :: rest) v conv)) st := by
  rw [C15_variable_head_each_value, M.bind_run_ok (C15_literal_variable env fuel name v b fr st hf hl), mapM_singleton_flatten]
  exact congrFun (if_pos hlt) st

/-- **a literal variable at the head of a query is transparent**: `%v.rest` evaluates exactly like `rest` evaluated
    on the literal itself (inside a value scope rooted at it) - for every continuation of the query, every state whose
    innermost block defines `v` as a literal, every fuel -/
theorem C15_literal_head_in_place (env : Env) (fuel : Nat) (name : Str) (p : QueryPart) (ps : List QueryPart)
    (hp : ∀ b, p ≠ .allIndices b) (v : PV) (b : BlockFrame) (fr : List Frame) (current : PV) (conv : Option Nat)
    (st : St) (hf : st.frames = .block b :: fr) (hl : alLookup name b.lits = some v) :
    queryRetrieval env (fuel + 2) 0 (.key ('%' :: name) :: p :: ps) current conv st =
      (withValueScope v (queryRetrieval env (fuel + 1) 1 (.key ('%' :: name) :: p :: ps) v conv)) st := by
  have ha : afterVariable (p :: ps) = 1 := by
    cases p <;> first | rfl | exact absurd rfl (hp _)
  have h := literal_head env fuel name (p :: ps) v b fr current conv st hf hl
  rw [ha] at h
  exact h (Nat.succ_lt_succ (Nat.succ_pos _))

-- Non-vacuity: a block scope that defines `v` as a literal
example : ∃ b : BlockFrame, alLookup "v".toList b.lits = some (PV.int Path.root 1) :=
  ⟨{ root := PV.int Path.root 0, lits := [("v".toList, PV.int Path.root 1)], queries := [], funs := [], memo := [], inProgress := [] }, rfl⟩

end Guard.C15
