import Guard.Lemmas.Order
/-
  C13 — comparison operators form a coherent algebra over values.
  Theorems about `compareValues`, `compareEq`, `compareLt/Le/Gt/Ge`, `isWithin*`
  (the Lean mirror of path_value.rs:1047-1192, values.rs:266-278), for ALL values.
-/
namespace Guard.C13
open Guard

/-- Two scalars of the same ordered type: ints, non-NaN floats, strings, chars. -/
def sameOrdered : PV → PV → Bool
  | .int _ _, .int _ _ => true
  | .float _ x, .float _ y => !x.isNaN && !y.isNaN
  | .str _ _, .str _ _ => true
  | .char _ _, .char _ _ => true
  | _, _ => false

/-- On same-ordered-type scalars the three-way comparison is defined. -/
theorem C13_ordering_defined (a b : PV) (h : sameOrdered a b = true) :
    ∃ o, compareValues a b = .ok o := by
  unfold sameOrdered at h
  split at h  -- arms of `sameOrdered`: int, float (`h_2`), str, char, every other pair (`h_5`)
  case h_2 => rw [compareValues_float, if_neg (by simpa using h)]; exact ⟨_, rfl⟩
  case h_5 => cases h
  all_goals exact ⟨_, rfl⟩

/-- **Trichotomy**: exactly one of `<`, `==`, `>` holds, the other two are (defined and) false. -/
theorem C13_trichotomy (env : Env) (a b : PV) (h : sameOrdered a b = true) :
    (compareLt a b = .ok true ∧ compareEq env a b = .ok false ∧ compareGt a b = .ok false) ∨
    (compareLt a b = .ok false ∧ compareEq env a b = .ok true ∧ compareGt a b = .ok false) ∨
    (compareLt a b = .ok false ∧ compareEq env a b = .ok false ∧ compareGt a b = .ok true) := by
  obtain ⟨o, ho⟩ := C13_ordering_defined a b h
  obtain ⟨lt, -, gt, -, eq⟩ := compare_of_ok env ho
  cases o
  · exact .inl ⟨lt, eq, gt⟩
  · exact .inr (.inl ⟨lt, eq, gt⟩)
  · exact .inr (.inr ⟨lt, eq, gt⟩)

/-- `<=` holds iff `<` or `==`; `>=` iff `>` or `==`. -/
theorem C13_le_ge (env : Env) (a b : PV) (h : sameOrdered a b = true) :
    ∃ lt eq gt : Bool, compareLt a b = .ok lt ∧ compareEq env a b = .ok eq ∧ compareGt a b = .ok gt ∧
      compareLe a b = .ok (lt || eq) ∧ compareGe a b = .ok (gt || eq) := by
  obtain ⟨o, ho⟩ := C13_ordering_defined a b h
  obtain ⟨lt, le, gt, ge, eq⟩ := compare_of_ok env ho
  exact ⟨_, _, _, lt, eq, gt, by rw [le]; cases o <;> rfl, by rw [ge]; cases o <;> rfl⟩

theorem beq_ordering {o c : Ordering} {P : Prop} [Decidable P] (h : o = c ↔ P) : (o == c) = decide P := by
  rw [Bool.eq_iff_iff, beq_iff_eq, decide_eq_true_iff, h]

/-- The order on integers is the numeric one. -/
theorem C13_int_order (p q : Path) (i j : Int) :
    (compareLt (.int p i) (.int q j) = .ok (decide (i < j))) ∧
    (compareGt (.int p i) (.int q j) = .ok (decide (j < i))) ∧
    (∀ env, compareEq env (.int p i) (.int q j) = .ok (decide (i = j))) := by
  have h : compareValues (.int p i) (.int q j) = .ok (compare i j) := rfl
  exact ⟨(cmpWith_ok _ h).trans (congrArg _ (beq_ordering Int.compare_eq_lt)),
    (cmpWith_ok _ h).trans (congrArg _ (beq_ordering Int.compare_eq_gt)),
    fun env => (compareEq_of_ok env h).trans (congrArg _ (beq_ordering Int.compare_eq_eq))⟩

/-- The order on non-NaN doubles is the order of their sign-magnitude keys (the IEEE order,
    with `-0.0 = +0.0`); a NaN operand makes the values not comparable. -/
theorem C13_float_order (p q : Path) (x y : F64) :
    (x.isNaN = false → y.isNaN = false →
      compareValues (.float p x) (.float q y) = .ok (compare x.key y.key)) ∧
    (x.isNaN = true ∨ y.isNaN = true →
      compareValues (.float p x) (.float q y) = .err .NotComparable) := by
  rw [compareValues_float]
  exact ⟨fun hx hy => by rw [hx, hy]; rfl, fun h => if_pos (by simpa using h)⟩

/-- Both zeros compare equal. -/
theorem C13_float_zeros (p q : Path) (env : Env) :
    compareEq env (.float p ⟨false, 0, 0⟩) (.float q ⟨true, 0, 0⟩) = .ok true :=
  compareEq_of_ok env (o := .eq) rfl

/-- The order on strings is lexicographic by code point; `==` is string equality. -/
theorem C13_string_order (p q : Path) (s t : Str) (env : Env) :
    compareValues (.str p s) (.str q t) = .ok (Str.cmp s t) ∧
    compareEq env (.str p s) (.str q t) = .ok (decide (s = t)) :=
  ⟨rfl, (compareEq_of_ok env rfl).trans (congrArg _ (beq_ordering Str.cmp_eq))⟩

set_option linter.unusedVariables false in  -- `h` is part of the statement but not needed: the law holds for every pair (`cmpWith_swap`)
/-- `a < b` iff `b > a` (the order is antisymmetric), for all same-ordered-type scalars. -/
theorem C13_lt_gt_swap (a b : PV) (h : sameOrdered a b = true) :
    compareLt a b = compareGt b a :=
  (cmpWith_swap _ b a).trans (congrArg (cmpWith · b a) (funext fun o => by cases o <;> rfl))

/-- `X in r[lo,hi]`-style ranges: `==` of an int with an int range is exactly the two bound
    comparisons selected by the inclusivity bits (all four bracket forms). -/
theorem C13_range_int (env : Env) (p q : Path) (x lo hi : Int) (incl : Nat) :
    compareEq env (.int p x) (.rangeInt q lo hi incl) =
      .ok ((if incl % 2 = 1 then decide (lo ≤ x) else decide (lo < x)) &&
           (if incl / 2 % 2 = 1 then decide (x ≤ hi) else decide (x < hi))) := by
  rw [compareEq, isWithinKey_eq]

theorem C13_range_brackets (env : Env) (p q : Path) (x lo hi : Int) :
    compareEq env (.int p x) (.rangeInt q lo hi 3) = .ok (decide (lo ≤ x) && decide (x ≤ hi)) ∧   -- r[lo,hi]
    compareEq env (.int p x) (.rangeInt q lo hi 0) = .ok (decide (lo < x) && decide (x < hi)) ∧   -- r(lo,hi)
    compareEq env (.int p x) (.rangeInt q lo hi 1) = .ok (decide (lo ≤ x) && decide (x < hi)) ∧   -- r[lo,hi)
    compareEq env (.int p x) (.rangeInt q lo hi 2) = .ok (decide (lo < x) && decide (x ≤ hi)) :=   -- r(lo,hi]
  ⟨C13_range_int .., C13_range_int .., C13_range_int .., C13_range_int ..⟩

/-- Float ranges: same with the key order; any NaN makes the test false. -/
theorem C13_range_float (env : Env) (p q : Path) (x lo hi : F64) (incl : Nat)
    (hx : x.isNaN = false) (hl : lo.isNaN = false) (hh : hi.isNaN = false) :
    compareEq env (.float p x) (.rangeFloat q lo hi incl) =
      .ok ((if incl % 2 = 1 then decide (lo.key ≤ x.key) else decide (lo.key < x.key)) &&
           (if incl / 2 % 2 = 1 then decide (x.key ≤ hi.key) else decide (x.key < hi.key))) := by
  rw [compareEq, isWithinF64, hx, hl, hh, isWithinKey_eq]; rfl

/-- A regex on the right (or left) of `==` against a string is exactly the regex oracle. -/
theorem C13_regex (env : Env) (p q : Path) (s re : Str) :
    compareEq env (.str p s) (.regex q re) = regexEq env re s ∧
    compareEq env (.regex q re) (.str p s) = regexEq env re s := by
  constructor <;> rw [compareEq]

/-- The coarse type of a value, as far as ordering comparisons are concerned. -/
inductive Kind | null | str | regex | bool | int | float | char | list | map | range
  deriving DecidableEq
def kind : PV → Kind
  | .null _ => .null | .str _ _ => .str | .regex _ _ => .regex | .bool _ _ => .bool
  | .int _ _ => .int | .float _ _ => .float | .char _ _ => .char | .list _ _ => .list
  | .map _ _ _ => .map | .rangeInt .. => .range | .rangeFloat .. => .range | .rangeChar .. => .range

theorem kind_of_ok {a b : PV} {o : Ordering} (h : compareValues a b = .ok o) :
    kind a = kind b ∧ kind a ∉ [Kind.bool, .list, .map, .regex, .range] := by
  unfold compareValues at h
  split at h  -- `h_6`: the arm of `compareValues` for every pair it does not order
  case h_6 => cases h
  all_goals exact ⟨rfl, by simp [kind]⟩

theorem nc_of_kind {a b : PV} (h : ∀ o, compareValues a b = .ok o → kind a = kind b → False) : compareValues a b = .err .NotComparable :=
  (compareValues_ok_or_nc a b).resolve_left fun ⟨o, ho⟩ => h o ho (kind_of_ok ho).1

/-- Values of different types are never ordered: `<`, `<=`, `>`, `>=` all answer NotComparable
    (which every caller turns into a FAIL of the check, for both polarities). -/
theorem C13_different_types_unordered (a b : PV) (h : kind a ≠ kind b) :
    compareLt a b = .err .NotComparable ∧ compareLe a b = .err .NotComparable ∧
    compareGt a b = .err .NotComparable ∧ compareGe a b = .err .NotComparable :=
  have nc := nc_of_kind fun _ _ => h
  ⟨cmpWith_err _ nc, cmpWith_err _ nc, cmpWith_err _ nc, cmpWith_err _ nc⟩

/-- Unordered types (bool, list, map, null-vs-other) have no `<`/`>` either. -/
theorem C13_unordered_types (a b : PV)
    (h : kind a ∈ [Kind.bool, .list, .map, .regex, .range] ∨ kind b ∈ [Kind.bool, .list, .map, .regex, .range]) :
    compareLt a b = .err .NotComparable ∧ compareGt a b = .err .NotComparable :=
  have nc := nc_of_kind fun _ ho e => h.elim (kind_of_ok ho).2 (e ▸ (kind_of_ok ho).2)
  ⟨cmpWith_err _ nc, cmpWith_err _ nc⟩

/-- `==` between scalars of different (non-regex, non-range) types is NotComparable too. -/
theorem C13_different_types_not_equal (env : Env) (a b : PV) (h : kind a ≠ kind b)
    (ha : kind a ∈ [Kind.null, .str, .bool, .int, .float, .char, .list, .map])
    (hb : kind b ∈ [Kind.null, .str, .bool, .int, .float, .char, .list, .map]) :
    compareEq env a b = .err .NotComparable := by
  unfold compareEq
  split
  -- arms of `compareEq` as written: `h_1` str/regex, `h_2` regex/str, `h_3`..`h_7` two values of one
  -- kind, `h_8`..`h_10` a scalar against its range, `h_11` everything else
  case h_1 | h_8 | h_9 | h_10 => exact absurd hb (by simp [kind])
  case h_2 => exact absurd ha (by simp [kind])
  case h_11 => rw [nc_of_kind fun _ _ => h]
  all_goals exact absurd rfl h

-- Non-vacuity: the hypotheses are satisfiable by concrete, non-trivial values.
example : sameOrdered (.int Path.root 3) (.int Path.root (-7)) = true := rfl
example : sameOrdered (.float Path.root ⟨false, 1023, 0⟩) (.float Path.root ⟨true, 1024, 5⟩) = true := rfl
example : sameOrdered (.str Path.root "ab".toList) (.str Path.root "abc".toList) = true := rfl
example : kind (.int Path.root 1) ≠ kind (.str Path.root "1".toList) := by decide

end Guard.C13
