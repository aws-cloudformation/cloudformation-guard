import Guard.Gen.Sites
import Guard.Gen.Functions
import Guard.Properties.SitesBaseline
import Guard.Properties.C11  -- `C11_tags_total` (the loaders' tag lookup cannot panic) is part of what the C08 check builds
import Guard.Lemmas.FramesEval
import Guard.Lemmas.PureSites
/-
  C08 — no input crashes the tool; bad input is reported as an error.

  * The model is TOTAL: every function of `Guard.Model` is a total Lean function (no `partial`,
    structural recursion on fuel); a Rust panic inside a modelled function is an explicit
    `Outcome.panic site`, a stack overflow is `outOfFuel`.
  * `C08_panic_sites_covered` — a GENERATED obligation: every panic-capable construct
    (`unwrap`, `expect`, `unreachable!`, `panic!`, `unimplemented!`, `todo!`, slicing, indexing,
    narrowing casts, `exit`) found in the current source, per function, is in the reviewed baseline.
    A change that adds one makes this false.
  * Reachability lemmas for modelled sites: under what the parser guarantees the site is not reached.
  * Partial: the nom grammar and libyaml on arbitrary bytes are outside the model; the malformed-input
    stream runs every mutated input through validate / test / parse-tree / rulegen / run_checks and
    classifies exit status and signals (testing, labelled as such).
-/
namespace Guard.C08
open Guard

def baseKey (s : String × String × String × Nat × String) : String × String × String × Nat := (s.1, s.2.1, s.2.2.1, s.2.2.2.1)

/-- both tables list the sites in the sorted order of tools/extract.py (the baseline is its output, reviewed, written by
    tools/mk_sites_baseline.py), so being covered is being a sublist: one pass over the baseline (each string compared
    once) where `all .. contains` searches it once per site -/
theorem covered_of_isSublist {α} [BEq α] [LawfulBEq α] {a b : List α} (h : a.isSublist b = true) :
    (a.all fun s => b.contains s) = true :=
  List.all_eq_true.2 fun _ hs => List.contains_iff_mem.2 ((List.isSublist_iff_sublist.1 h).subset hs)

/-- every panic-capable site of the current source is a reviewed one -/
theorem C08_panic_sites_covered :
    (Gen.panicSites.all fun s => (Sites.panicBaseline.map baseKey).contains s) = true :=
  covered_of_isSublist (by decide +kernel)

/-- function arities in the source are what the argument indexing of the model assumes -/
theorem C08_function_arities :
    Gen.functions.map (fun f => (f.1, f.2.2)) =
      [("count", 1), ("join", 2), ("json_parse", 1), ("now", 0), ("parse_boolean", 1), ("parse_char", 1),
       ("parse_epoch", 1), ("parse_float", 1), ("parse_int", 1), ("parse_string", 1), ("regex_replace", 3),
       ("substring", 3), ("to_lower", 1), ("to_upper", 1), ("url_decode", 1)] :=
  rfl

def arity : FunctionName → Nat
  | .count | .jsonParse | .parseBoolean | .parseChar | .parseEpoch | .parseFloat | .parseInt | .parseString
  | .toLower | .toUpper | .urlDecode => 1
  | .join => 2
  | .regexReplace | .substring => 3
  | .now => 0

/-- **with the arity the parser enforces, a function call never indexes out of bounds** — whatever
    the argument result sets are, including EMPTY ones (fix 57f0017) -/
theorem C08_call_no_index_panic (env : Env) (name : FunctionName) (args : List (List QR))
    (h : args.length = arity name) : callFunction env name args ≠ .panic .functionArgIndex :=
  fun hp => nomatch (callFunction_arity (h.trans (by cases name <;> rfl))).of_panic hp

/-- **the scope-stack panic of `resolve_variable` is unreachable**: the model's `finish` step (the Rust code
    re-borrows the block scope it started in) pattern-matches the stack after the variable's query ran; by
    the stack discipline proved for the whole evaluator that match always succeeds, for every program,
    document, state and fuel. -/
theorem C08_variable_finish_never_fails (env : Env) (fuel : Nat) (q : List QueryPart) (root : PV) (nb : BlockFrame)
    (rest : List Frame) (st1 st' : St) (result : List QR) (h1 : st1.frames = Frame.block nb :: rest)
    (h : queryRetrieval env fuel 0 q root none st1 = .ok (result, st')) :
    ∃ b' rest', st'.frames = Frame.block b' :: rest' :=
  ((allPres env fuel).qr 0 q root none).block_top h1 h

/-- `resolver.root()` cannot fail after an evaluation step: the stack a step leaves has the root it started with -/
theorem C08_root_survives (env : Env) (fuel : Nat) (c : Clause) (st st' : St) (s : Status) (r : PV)
    (hr : rootOfFrames st.frames = some r) (h : evalClause env fuel c st = .ok (s, st')) :
    currentRoot st' = .ok (r, st') := by
  have hs := (allPres env fuel).clause c st s st' h
  unfold currentRoot
  rw [← hs.root, hr]

end Guard.C08
