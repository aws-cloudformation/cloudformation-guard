import Guard.Model.Eval
import Guard.Lemmas.Monad
/-
  C10 — reported paths, values and positions point into the input document.

  Modelled: the `ptr` component of `Path` (the slash-separated pointer) as attached by the loader
  (`PV.ofPlain`, path_value.rs:359-478) and carried by the retrieval of the evaluator model.
  NOT modelled: the line/column component (libyaml marks); the judge checks those against the
  data file text (testing, labelled as such) — so C10 is `partial` for positions.

  * `Reach doc segs v`: `v` sits in `doc` at the pointer segments `segs` (struct key / decimal list
    index per segment); `resolve` is the executable pointer resolution and implies `Reach`;
  * `C10_load_paths`: every value that sits at `segs` in a loaded document carries exactly the
    pointer `/seg₁/seg₂/…` — for every document, of any size and depth;
  * `C10_plain_query_sound`: for every query made of keys, indices, `[*]`, `.*` and `this` (no
    variables, no filters), every fuel, scope state and case-conversion mode, every result of
    the evaluator's `queryRetrieval` — resolved or unresolved — is a value IN the document, hence
    (with `C10_load_paths`) its reported path resolves to it; literals are never produced;
  * `C10_retrieveIndex`, `C10_missing_key`: an unresolved step stops AT an in-document value and
    the next segment does not exist there.
-/
namespace Guard.C10
open Guard

/-- one pointer segment: a key of a struct, or the decimal index of a list element -/
def StepR (v : PV) (s : Str) (w : PV) : Prop :=
  match v with
  | .map _ ks vs => ∃ p, ((p, s), w) ∈ ks.zip vs
  | .list _ xs => ∃ i : Nat, (toString i).toList = s ∧ xs[i]? = some w
  | _ => False

def Reach : PV → List Str → PV → Prop
  | doc, [], v => v = doc
  | doc, s :: ss, v => ∃ w, StepR doc s w ∧ Reach w ss v

def ptrOf (base : Str) (segs : List Str) : Str := segs.foldl (fun acc s => acc ++ '/' :: s) base

theorem ptrOf_cons (base : Str) (s : Str) (ss : List Str) : ptrOf base (s :: ss) = ptrOf (base ++ '/' :: s) ss := rfl

/-- executable pointer resolution (first entry of a key, like `map.values.get`) -/
def nthBySeg : List PV → Nat → Str → Option PV
  | [], _, _ => none
  | x :: rest, i, seg => if (toString i).toList = seg then some x else nthBySeg rest (i + 1) seg

def stepSeg (v : PV) (seg : Str) : Option PV :=
  match v with
  | .map _ ks vs => PV.lookupKV ks vs seg
  | .list _ xs => nthBySeg xs 0 seg
  | _ => none

def resolve (v : PV) : List Str → Option PV
  | [] => some v
  | s :: ss => match stepSeg v s with
    | some w => resolve w ss
    | none => none

theorem nthBySeg_some {xs : List PV} {i : Nat} {seg : Str} {w : PV} (h : nthBySeg xs i seg = some w) :
    ∃ j, (toString (i + j)).toList = seg ∧ xs[j]? = some w := by
  induction xs generalizing i with
  | nil => cases h
  | cons x rest ih =>
    rw [nthBySeg] at h
    split at h
    · next hs => exact ⟨0, hs, h⟩
    · obtain ⟨j, hj, e⟩ := ih h
      exact ⟨j + 1, Nat.add_right_comm i 1 j ▸ hj, e⟩

theorem lookupKV_mem {ks : List (Path × Str)} {vs : List PV} {k : Str} {w : PV}
    (h : PV.lookupKV ks vs k = some w) : ∃ p, ((p, k), w) ∈ ks.zip vs := by
  induction ks generalizing vs with
  | nil => cases h
  | cons pk ks ih =>
    cases vs with
    | nil => cases h
    | cons v vs =>
      rw [PV.lookupKV] at h
      split at h
      · next hk => cases h; exact ⟨pk.1, hk ▸ List.mem_cons_self⟩
      · exact (ih h).imp fun _ => List.mem_cons_of_mem _

theorem stepSeg_StepR {v w : PV} {s : Str} (h : stepSeg v s = some w) : StepR v s w := by
  cases v with
  | list p xs => exact (nthBySeg_some h).imp fun j hj => ⟨Nat.zero_add j ▸ hj.1, hj.2⟩
  | map p ks vs => exact lookupKV_mem h
  | _ => cases h

/-- what the executable resolution finds sits there -/
theorem resolve_reach (doc : PV) (segs : List Str) (v : PV) (h : resolve doc segs = some v) : Reach doc segs v := by
  induction segs generalizing doc with
  | nil => cases h; rfl
  | cons s ss ih =>
    rw [resolve] at h
    split at h
    · next w hw => exact ⟨w, stepSeg_StepR hw, ih w h⟩
    · cases h

theorem ofPlain_path (x : Plain) (p : Path) : (PV.ofPlain x p).path = p := by
  cases x <;> rfl

theorem ofPlainList_getElem? {xs : List Plain} {p : Path} {i j : Nat} {w : PV}
    (h : (PV.ofPlainList xs p i)[j]? = some w) : ∃ x, w = PV.ofPlain x (p.extendNat (i + j)) := by
  induction xs generalizing i j with
  | nil => cases h
  | cons x xs ih =>
    cases j with
    | zero => cases h; exact ⟨x, rfl⟩
    | succ j => exact Nat.add_right_comm i 1 j ▸ ih (i := i + 1) h

theorem ofPlainVals_zip {ks : List Str} {vs : List Plain} {p q : Path} {k : Str} {w : PV}
    (h : ((q, k), w) ∈ (ks.map fun k => (p.extendStr k, k)).zip (PV.ofPlainVals ks vs p)) :
    ∃ x, w = PV.ofPlain x (p.extendStr k) := by
  induction ks generalizing vs with
  | nil => cases h
  | cons k' ks ih =>
    cases vs with
    | nil => cases h
    | cons x xs =>
      rcases List.mem_cons.mp h with e | h
      · cases e; exact ⟨x, rfl⟩
      · exact ih h

theorem step_ofPlain {x : Plain} {p : Path} {s : Str} {w : PV} (h : StepR (PV.ofPlain x p) s w) :
    ∃ y, w = PV.ofPlain y (p.extendStr s) := by
  cases x with
  | list xs => obtain ⟨i, rfl, hi⟩ := h; exact Nat.zero_add i ▸ ofPlainList_getElem? hi
  | map ks vs => exact h.elim fun q => ofPlainVals_zip
  | _ => cases h

/-- **load paths**: whatever sits at `segs` in a loaded document carries the pointer
    `base/seg₁/seg₂/…` — the path recorded on a value leads, in the document, to that value. -/
theorem C10_load_paths (x : Plain) : ∀ (p : Path) (segs : List Str) (v : PV),
    Reach (PV.ofPlain x p) segs v → v.path.ptr = ptrOf p.ptr segs := by
  intro p segs v h
  induction segs generalizing x p with
  | nil => cases h; rw [ofPlain_path]; rfl
  | cons s ss ih =>
    obtain ⟨w, hw, hr⟩ := h
    obtain ⟨y, rfl⟩ := step_ofPlain hw
    exact ih y _ hr

/-! ### the retrieval of the evaluator stays inside the document -/

/-- `v` is a value OF the document: it sits at some pointer -/
def InDoc (doc v : PV) : Prop := ∃ segs, Reach doc segs v

theorem reach_append {doc v w : PV} {a b : List Str} (h : Reach doc a v) (hb : Reach v b w) :
    Reach doc (a ++ b) w := by
  induction a generalizing doc with
  | nil => cases h; exact hb
  | cons s ss ih => exact h.imp fun u hu => ⟨hu.1, ih hu.2⟩

theorem InDoc.refl (doc : PV) : InDoc doc doc := ⟨[], rfl⟩

theorem InDoc.step {doc v w : PV} {s : Str} (h : InDoc doc v) (hs : StepR v s w) : InDoc doc w :=
  h.elim fun segs e => ⟨segs ++ [s], reach_append e ⟨w, hs, rfl⟩⟩

/-- struct lookup (`.key`, key filters): the value found is the document value one key further -/
theorem C10_key_step {doc : PV} {p : Path} {ks : List (Path × Str)} {vs : List PV} {k : Str} {w : PV}
    (h : InDoc doc (.map p ks vs)) (hk : PV.lookupKV ks vs k = some w) : InDoc doc w :=
  h.step (s := k) (lookupKV_mem hk)

/-- every value of a struct (`.*`, `[*]` on structs, `accumulate_map`) -/
theorem C10_value_step {doc : PV} {p : Path} {ks : List (Path × Str)} {vs : List PV} {q : Path} {k : Str} {w : PV}
    (h : InDoc doc (.map p ks vs)) (hm : ((q, k), w) ∈ ks.zip vs) : InDoc doc w :=
  h.step (s := k) ⟨q, hm⟩

/-- list elements (`[i]`, `[*]`, filters over lists): element `i` is the document value at `/i` -/
theorem C10_elem_step {doc : PV} {p : Path} {xs : List PV} {i : Nat} {w : PV}
    (h : InDoc doc (.list p xs)) (hi : xs[i]? = some w) : InDoc doc w :=
  h.step (s := (toString i).toList) ⟨i, rfl, hi⟩

theorem C10_mem_step {doc : PV} {p : Path} {xs : List PV} {w : PV}
    (h : InDoc doc (.list p xs)) (hm : w ∈ xs) : InDoc doc w :=
  (List.getElem?_of_mem hm).elim fun _ => C10_elem_step h

/-- `retrieve_index`: the result is the element of the document, or it stops AT the list and the
    index does not exist in it -/
theorem C10_retrieveIndex {doc : PV} {p : Path} {xs : List PV} (idx : Int) (q : List QueryPart)
    (h : InDoc doc (.list p xs)) :
    (∃ w, retrieveIndex (.list p xs) idx xs q = .resolved w ∧ InDoc doc w ∧ xs[idx.natAbs]? = some w) ∨
    (∃ u, retrieveIndex (.list p xs) idx xs q = .unresolved u ∧ u.traversedTo = .list p xs ∧ xs[idx.natAbs]? = none) := by
  cases e : xs[idx.natAbs]? with
  | some w => exact .inl ⟨w, by simp only [retrieveIndex, e], C10_elem_step h e, rfl⟩
  | none => exact .inr ⟨_, by simp only [retrieveIndex, e]; rfl, rfl, rfl⟩

/-- a key that is not in the struct: the result stops at the struct, which is in the document,
    and the next segment does not resolve -/
theorem C10_missing_key {doc : PV} {p : Path} {ks : List (Path × Str)} {vs : List PV} (k : Str)
    (h : InDoc doc (.map p ks vs)) (hk : PV.lookupKV ks vs k = none) :
    InDoc doc (.map p ks vs) ∧ stepSeg (.map p ks vs) k = none := ⟨h, hk⟩

/-- everything in a loaded document carries its own pointer -/
theorem C10_reported_path_resolves (x : Plain) (v : PV) (h : InDoc (PV.ofPlain x Path.root) v) :
    ∃ segs, Reach (PV.ofPlain x Path.root) segs v ∧ v.path.ptr = ptrOf [] segs :=
  h.imp fun segs e => ⟨e, C10_load_paths x Path.root segs v e⟩


/-! ### whole queries: keys, indices, `[*]`, `.*`, `this` -/

/-- the query parts of a variable-free, filter-free query -/
def plainPart : QueryPart → Bool
  | .this => true
  | .key k => !(QueryPart.key k).isVariable
  | .index _ => true
  | .allIndices none => true
  | .allValues none => true
  | _ => false

def QROk (doc : PV) : QR → Prop
  | .resolved v => InDoc doc v
  | .unresolved u => InDoc doc u.traversedTo
  | .literal _ => False

abbrev Sel (P : QR → Prop) (m : M (List QR)) : Prop := Ret (fun res => ∀ r ∈ res, P r) m

section
variable {P : QR → Prop}

theorem sel_pure {x : QR} (hx : P x) : Sel P (pure [x]) := ret_pure fun _ hr => List.mem_singleton.mp hr ▸ hx

theorem sel_nil : Sel P (pure []) := ret_pure nofun

theorem sel_onPass {status : Status} {m : M (List QR)} (hm : Sel P m) :
    Sel P (match status with | .pass => m | _ => pure []) := by
  split
  · exact hm
  · exact sel_nil

theorem sel_flatMapM {α : Type} {l : List α} {f : α → M (List QR)} (hf : ∀ a ∈ l, Sel P (f a)) :
    Sel P (do let rows ← l.mapM f; pure rows.flatten) :=
  ret_bind (ret_mapM l hf) fun _ hrows => ret_pure fun _ hr =>
    let ⟨row, h1, h2⟩ := List.mem_flatten.mp hr; hrows.2 row h1 _ h2

theorem sel_accumulateMap {parent : PV} {ks : List (Path × Str)} {vs : List PV} {qi : Nat} {query : List QueryPart}
    {func : PV → PV → M (List QR)} (hparent : P (unresolvedAt parent (query.drop qi)))
    (hf : ∀ q k each, ((q, k), each) ∈ ks.zip vs → Sel P (func (PV.str q k) each)) :
    Sel P (accumulateMap parent ks vs qi query func) :=
  ret_ite (sel_pure hparent) (sel_flatMapM fun ⟨⟨q, k⟩, each⟩ hm => ret_withValueScope (hf q k each hm))

end

theorem sel_index {doc : PV} {p : Path} {xs : List PV} {idx : Int} {q : List QueryPart} {f : PV → M (List QR)}
    (hc : InDoc doc (.list p xs)) (hf : ∀ w, InDoc doc w → Sel (QROk doc) (f w)) :
    Sel (QROk doc) (match retrieveIndex (.list p xs) idx xs q with | .resolved v => f v | rest => pure [rest]) := by
  rcases C10_retrieveIndex idx q hc with ⟨w, e, hw, _⟩ | ⟨u, e, hu, _⟩ <;> rw [e]
  · exact hf w hw
  · exact sel_pure (show InDoc doc u.traversedTo from hu.symm ▸ hc)

/-- variable-free query parts: the plain ones, `[*]` / `.*` with a key-capture name, and FILTERS with any
    content (the filter's clauses may use variables, functions, anything: they only select) -/
def vfPart : QueryPart → Bool
  | .this => true
  | .key k => !(QueryPart.key k).isVariable
  | .index _ => true
  | .allIndices _ => true
  | .allValues _ => true
  | .filter _ _ => true
  | .mapKeyFilter _ _ _ _ => false

theorem plainPart_vfPart {p : QueryPart} (h : plainPart p = true) : vfPart p = true := by
  cases p with
  | allIndices n | allValues n => rfl
  | filter _ _ | mapKeyFilter _ _ _ _ => cases h
  | _ => exact h

theorem vfPart_not_var {p : QueryPart} (h : vfPart p = true) : p.isVariable = false := by
  cases p with
  | key k => exact (Bool.not_eq_true' _).mp h
  | mapKeyFilter _ _ _ _ => cases h
  | _ => rfl

/-- the invariant of the walk, for the three functions of the mutual block that hand query results on; what else
    `queryRetrieval` runs (the clauses of a filter, through `evalCnf`) yields a status that only selects, so nothing
    is needed of it (`ret_after`) -/
structure VfSound (env : Env) (doc : PV) (fuel : Nat) : Prop where
  qr : ∀ qi query current conv, query.all vfPart = true → InDoc doc current →
    Sel (QROk doc) (queryRetrieval env fuel qi query current conv)
  acc : ∀ parent qi query elements conv, query.all vfPart = true → InDoc doc parent → (∀ e ∈ elements, InDoc doc e) →
    Sel (QROk doc) (accumulate env fuel parent qi query elements conv)
  cad : ∀ cnf name index query key value conv, query.all vfPart = true → InDoc doc value →
    Sel (QROk doc) (checkAndDelegate env fuel cnf name index query key value conv)

section
variable {env : Env} {doc : PV} {fuel : Nat} (ih : VfSound env doc fuel)
include ih

theorem vf_acc {parent qi query elements conv} (hp : query.all vfPart = true) (hc : InDoc doc parent)
    (he : ∀ e ∈ elements, InDoc doc e) : Sel (QROk doc) (accumulate env (fuel + 1) parent qi query elements conv) := by
  simp only [accumulate]
  exact ret_ite (sel_pure hc) (sel_flatMapM fun e h => ih.qr _ _ _ _ hp (he e h))

theorem vf_cad {cnf name index query key value conv} (hp : query.all vfPart = true) (hv : InDoc doc value) :
    Sel (QROk doc) (checkAndDelegate env (fuel + 1) cnf name index query key value conv) := by
  simp only [checkAndDelegate]
  refine ret_after fun status => ?_
  have hk : Sel (QROk doc) (match status with
      | .pass => queryRetrieval env fuel index query value conv
      | _ => pure []) := sel_onPass (ih.qr _ _ _ _ hp hv)
  split
  · exact ret_ite (ret_after fun _ => hk) hk
  · exact hk

theorem vf_qr {qi query current conv} (hp : query.all vfPart = true) (hc : InDoc doc current) :
    Sel (QROk doc) (queryRetrieval env (fuel + 1) qi query current conv) := by
  rw [queryRetrieval]
  have hnext : ∀ {v c}, InDoc doc v → Sel (QROk doc) (queryRetrieval env fuel (qi + 1) query v c) := ih.qr _ _ _ _ hp
  have hstop : ∀ {q}, Sel (QROk doc) (pure [unresolvedAt current q]) := sel_pure hc
  split
  · exact sel_pure hc
  next part hq =>
  have hvf : vfPart part = true := List.all_eq_true.mp hp part (List.mem_of_getElem? hq)
  have hv : part.isVariable = false := vfPart_not_var hvf
  rw [if_neg (by simp [hv])]
  split
  · exact hnext hc  -- `.this`
  next k =>  -- `.key k`
    split
    · split
      · exact sel_index hc fun _ => hnext
      · exact hstop
    · split
      · next p ks vs =>
        rw [if_neg (by simp [hv])]
        -- every lookup, under the key as written or case-converted, continues on a value of the document
        have hk : ∀ {k' c g}, Sel (QROk doc) g → Sel (QROk doc) (match PV.lookupKV ks vs k' with
            | some val => queryRetrieval env fuel (qi + 1) query val c
            | none => g) := fun hg => by
          split
          · next h => exact hnext (C10_key_step hc h)
          · exact hg
        refine hk ?_
        split
        · exact hk hstop
        · split
          · exact hk hstop
          · exact hstop
      · exact hstop
  next i =>  -- `.index i`
    split
    · exact sel_index hc fun _ => hnext
    · exact hstop
  next name =>  -- `.allIndices name`
    split
    · exact ih.acc _ _ _ _ _ hp hc fun e he => C10_mem_step hc he
    · split
      · exact hnext hc
      · exact sel_accumulateMap hc fun _ _ _ hm => ret_after fun _ => hnext (C10_value_step hc hm)
    · exact hnext hc
  next name =>  -- `.allValues name`
    split
    · exact ih.acc _ _ _ _ _ hp hc fun e he => C10_mem_step hc he
    · refine sel_accumulateMap hc fun _ _ _ hm => ?_
      split
      · exact ret_after fun _ => hnext (C10_value_step hc hm)
      · exact hnext (C10_value_step hc hm)
    · exact hnext hc
  next name cnf =>  -- `.filter name cnf`
    split
    · refine ret_ite (ret_fail fun _ _ => nofun) ?_
      split
      · exact ret_ite (sel_accumulateMap hc fun _ _ _ hm => ih.cad _ _ _ _ _ _ _ hp (C10_value_step hc hm)) sel_nil
      · exact ret_withValueScope (ih.cad _ _ _ _ _ _ _ hp hc)
    · exact sel_flatMapM fun each he => ret_after fun status => sel_onPass (hnext (C10_mem_step hc he))
    · refine ret_ite (ret_fail fun _ _ => nofun) ?_
      split
      · exact ret_after fun status => sel_onPass (hnext hc)
      · exact hstop
  next name op opNot withV => cases hvf  -- `.mapKeyFilter`: not variable-free

end

theorem vf_sound (env : Env) (doc : PV) : ∀ fuel, VfSound env doc fuel
  | 0 => by
    constructor <;> intros <;>
      simp only [queryRetrieval, accumulate, checkAndDelegate] <;> exact ret_fail fun _ _ => nofun
  | fuel + 1 =>
    have ih := vf_sound env doc fuel
    ⟨fun _ _ _ _ => vf_qr ih, fun _ _ _ _ _ => vf_acc ih, fun _ _ _ _ _ _ _ => vf_cad ih⟩

/-- **queries with filters are sound**: whatever `queryRetrieval` returns for a query made of keys, indices,
    `[*]`, `.*` (with or without key capture), `this` and FILTERS OF ANY CONTENT on a loaded document — for every
    fuel, scope state, rules file and case-conversion mode — is a value of the document carrying the pointer that
    reaches it, or an unresolved result that stopped at such a value.  (A filter only selects among the values it
    is applied to; whatever its clauses evaluate, nothing they produce leaks into the result.) -/
theorem C10_filter_query_sound (env : Env) (x : Plain) (fuel : Nat) (query : List QueryPart)
    (hq : query.all vfPart = true) (conv : Option Nat) (st st' : St) (res : List QR)
    (h : queryRetrieval env fuel 0 query (PV.ofPlain x Path.root) conv st = .ok (res, st')) :
    ∀ r ∈ res, match r with
      | .resolved v => ∃ segs, Reach (PV.ofPlain x Path.root) segs v ∧ v.path.ptr = ptrOf [] segs
      | .unresolved u => ∃ segs, Reach (PV.ofPlain x Path.root) segs u.traversedTo ∧ u.traversedTo.path.ptr = ptrOf [] segs
      | .literal _ => False := by
  intro r hr
  have := (vf_sound env (PV.ofPlain x Path.root) fuel).qr 0 query _ conv hq (InDoc.refl _) st res st' h r hr
  cases r with
  | resolved v => exact C10_reported_path_resolves x v this
  | unresolved u => exact C10_reported_path_resolves x u.traversedTo this
  | literal v => exact this

/-- **plain queries are sound**: whatever `queryRetrieval` returns for a query made of keys,
    indices, `[*]`, `.*` and `this` on a loaded document — for every fuel, scope state and
    case-conversion mode — each resolved value and each value an unresolved result stopped at
    sits in the document at the pointer it carries; no literal is produced. -/
theorem C10_plain_query_sound (env : Env) (x : Plain) (fuel : Nat) (query : List QueryPart)
    (hq : query.all plainPart = true) (conv : Option Nat) (st st' : St) (res : List QR)
    (h : queryRetrieval env fuel 0 query (PV.ofPlain x Path.root) conv st = .ok (res, st')) :
    ∀ r ∈ res, match r with
      | .resolved v => ∃ segs, Reach (PV.ofPlain x Path.root) segs v ∧ v.path.ptr = ptrOf [] segs
      | .unresolved u => ∃ segs, Reach (PV.ofPlain x Path.root) segs u.traversedTo ∧ u.traversedTo.path.ptr = ptrOf [] segs
      | .literal _ => False :=
  C10_filter_query_sound env x fuel query
    (List.all_eq_true.mpr fun p hp => plainPart_vfPart (List.all_eq_true.mp hq p hp)) conv st st' res h

example (c : Cnf) : [QueryPart.key "Resources".toList, .allValues none, .filter none c, .key "Properties".toList].all vfPart = true := by
  simp [vfPart, QueryPart.isVariable, QueryPart.variable]

example : [QueryPart.key "a".toList, .allIndices none, .index 1, .allValues none, .this].all plainPart = true := by decide

/-- non-vacuity: a concrete document, a pointer and the value it reaches -/
example : resolve (PV.ofPlain (.map ["a".toList] [.list [.int 7, .str "x".toList]]) Path.root) ["a".toList, "1".toList]
    = some (.str { ptr := "/a/1".toList } "x".toList) := by
  rfl

/-! ### a pointer names one place: different segment lists give different pointers -/

theorem ptrOf_base (base : Str) (segs : List Str) : ptrOf base segs = base ++ ptrOf [] segs := by
  induction segs generalizing base with
  | nil => exact (List.append_nil base).symm
  | cons s ss ih => rw [ptrOf_cons, ih, ptrOf_cons, ih ([] ++ _), List.append_assoc]; rfl

theorem ptrOf_nil_cons (s : Str) (ss : List Str) : ptrOf [] (s :: ss) = '/' :: (s ++ ptrOf [] ss) :=
  ptrOf_base _ ss

theorem takeWhile_seg {s : Str} (hs : '/' ∉ s) (ss : List Str) :
    (s ++ ptrOf [] ss).takeWhile (· != '/') = s := by
  have : ∀ c ∈ s, (c != '/') = true := fun c hc => bne_iff_ne.mpr fun e => hs (e ▸ hc)
  rw [List.takeWhile_append_of_pos this]
  cases ss with
  | nil => exact List.append_nil s
  | cons t ts => rw [ptrOf_nil_cons]; exact List.append_nil s

/-- **a reported pointer identifies one place**: two segment lists (keys without `/`, the empty key included, and
    decimal indices) that yield the same pointer are the same list - so `/limits//size` (below the empty key) and
    `/limits/size` can never be confused -/
theorem C10_pointer_identifies_place (a b : List Str) (ha : ∀ s ∈ a, '/' ∉ s) (hb : ∀ s ∈ b, '/' ∉ s)
    (h : ptrOf [] a = ptrOf [] b) : a = b := by
  induction a generalizing b with
  | nil => cases b with
    | nil => rfl
    | cons t ts => cases ptrOf_nil_cons t ts ▸ h
  | cons s ss ih => cases b with
    | nil => cases ptrOf_nil_cons s ss ▸ h
    | cons t ts =>
      rw [ptrOf_nil_cons, ptrOf_nil_cons] at h
      have h := List.tail_eq_of_cons_eq h
      have e := congrArg (List.takeWhile (· != '/')) h
      rw [takeWhile_seg (ha s List.mem_cons_self), takeWhile_seg (hb t List.mem_cons_self)] at e
      subst e
      rw [ih ts (fun x hx => ha x (List.mem_cons_of_mem _ hx)) (fun x hx => hb x (List.mem_cons_of_mem _ hx))
        (List.append_cancel_left h)]

example : ptrOf [] ["limits".toList, [], "size".toList] ≠ ptrOf [] ["limits".toList, "size".toList] := by decide

end Guard.C10
