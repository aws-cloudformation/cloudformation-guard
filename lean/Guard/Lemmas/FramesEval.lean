import Guard.Lemmas.NoPanic
/-
  Guard.Lemmas.FramesEval — every function of the evaluator's mutual block, whenever it succeeds, leaves the scope stack
  as it found it (`Pres`); for every fuel, program, query, value and state.  Read off the walk of NoPanic with its flag
  off (`allW (strict := False)`): no hypothesis on the state or on the arguments is left.
-/
namespace Guard

structure AllPres (env : Env) (fuel : Nat) : Prop where
  qr : ∀ qi query current conv, Pres (queryRetrieval env fuel qi query current conv)
  acc : ∀ parent qi query elements conv, Pres (accumulate env fuel parent qi query elements conv)
  cad : ∀ cnf name index query key value conv, Pres (checkAndDelegate env fuel cnf name index query key value conv)
  qctx : ∀ q, Pres (queryCtx env fuel q)
  rvar : ∀ name, Pres (resolveVariable env fuel name)
  rfun : ∀ name params, Pres (resolveFunction env fuel name params)
  cnf : ∀ c, Pres (evalCnf env fuel c)
  line : ∀ l, Pres (evalLine env fuel l)
  alts : ∀ l, Pres (evalAlternatives env fuel l)
  clause : ∀ c, Pres (evalClause env fuel c)
  block : ∀ lets c, Pres (evalGeneralBlock env fuel lets c)
  unary : ∀ q op opNot inverse msg, Pres (unaryOperation env fuel q op opNot inverse msg)
  binary : ∀ q rhs op opNot msg, Pres (binaryOperation env fuel q rhs op opNot msg)
  pcall : ∀ rule neg msg params, Pres (evalParamCall env fuel rule neg msg params)
  rstat : ∀ name, Pres (ruleStatus env fuel name)
  fns : ∀ rules, Pres (firstNonSkip env fuel rules)
  rule : ∀ r, Pres (evalRule env fuel r)

/-- **scope-stack discipline**: every function of the evaluator, whenever it succeeds, leaves the scope
    stack as it found it (same frames, roots, variable tables, parameters) — for every fuel, program,
    query, value, environment and state. -/
theorem allPres (env : Env) : ∀ fuel, AllPres env fuel := fun fuel =>
  have k := allW (strict := False) env fuel
  { qr := fun _ _ _ _ => (k.qr _ _ _ _ nofun nofun).pres, acc := fun _ _ _ _ _ => (k.acc _ _ _ _ _ nofun).pres
    cad := fun _ _ _ _ _ _ _ => (k.cad _ _ _ _ _ _ _ nofun nofun nofun).pres, qctx := fun _ => (k.qctx _ nofun).pres
    rvar := fun _ => (k.rvar _).pres, rfun := fun _ _ => (k.rfun _ _ nofun).pres, cnf := fun _ => (k.cnf _ nofun).pres
    line := fun _ => (k.line _ nofun).pres, alts := fun _ => (k.alts _ nofun).pres, clause := fun _ => (k.clause _ nofun).pres
    block := fun _ _ => (k.block _ _ nofun nofun).pres, unary := fun _ _ _ _ _ => (k.unary _ _ _ _ _ nofun nofun nofun).pres
    binary := fun _ _ _ _ _ => (k.binary _ _ _ _ _ nofun).pres, pcall := fun _ _ _ _ => (k.pcall _ _ _ _ nofun).pres
    rstat := fun _ => (k.rstat _).pres, fns := fun _ => (k.fns _ nofun).pres, rule := fun _ => (k.rule _ nofun).pres }

theorem pres_realBinaryOperation (env : Env) (lhs rhs : List QR) (op : CmpOp) (opNot : Bool) (msg : Option Str) :
    Pres (realBinaryOperation env lhs rhs op opNot msg) :=
  (w_realBinaryOperation (strict := False) env lhs rhs op nofun opNot msg).pres

theorem pres_findParamRule (name : Str) : Pres (findParamRule name) := W.pres (triple_findParamRule name)

theorem pres_rulesNamed (name : Str) : Pres (rulesNamed name) := W.pres (triple_map triple_get)

end Guard
