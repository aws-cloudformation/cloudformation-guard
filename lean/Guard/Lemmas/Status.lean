import Guard.Model.Eval
/-
  Guard.Lemmas.Status — the status aggregators.  `lineStatus`, `someStatus` and `bodyStatus` are one priority rule
  (`prio`) read two ways, so one characterisation serves all three; and what aggregating chunk by chunk has to do
  with aggregating everything at once.
-/
namespace Guard

/-- `x` if it occurs, else `y` if it occurs, else SKIP: `lineStatus` and `someStatus` are `prio .pass .fail`,
    `bodyStatus` is `prio .fail .pass` (all three by `rfl`) -/
def prio (x y : Status) (l : List Status) : Status :=
  if l.any (· == x) then x else if l.any (· == y) then y else .skip

theorem prio_spec {x y : Status} (hxy : x ≠ y) (hx : x ≠ .skip) (hy : y ≠ .skip) (l : List Status) :
    (prio x y l = x ↔ x ∈ l) ∧ (prio x y l = y ↔ x ∉ l ∧ y ∈ l) ∧ (prio x y l = .skip ↔ x ∉ l ∧ y ∉ l) := by
  unfold prio
  simp only [List.any_beq', List.contains_iff_mem]
  by_cases h1 : x ∈ l <;> by_cases h2 : y ∈ l <;> simp [h1, h2, hxy, hxy.symm, hx, hy, hx.symm, hy.symm]

theorem prio_congr (x y : Status) {l₁ l₂ : List Status} (h : ∀ z, z ∈ l₁ ↔ z ∈ l₂) : prio x y l₁ = prio x y l₂ := by
  simp only [prio, List.any_beq', Bool.eq_iff_iff.mpr (List.contains_iff_mem.trans ((h _).trans List.contains_iff_mem.symm))]

theorem mem_cons_iff_of_mem {α} {x y : α} {l : List α} (h : x ∈ l) : y ∈ x :: l ↔ y ∈ l :=
  ⟨fun hy => (List.mem_cons.mp hy).elim (· ▸ h) id, List.mem_cons_of_mem _⟩

theorem bodyStatus_spec (l : List Status) :
    (bodyStatus l = .fail ↔ Status.fail ∈ l) ∧ (bodyStatus l = .pass ↔ Status.fail ∉ l ∧ Status.pass ∈ l) ∧
    (bodyStatus l = .skip ↔ Status.fail ∉ l ∧ Status.pass ∉ l) :=
  prio_spec (x := .fail) (y := .pass) nofun nofun nofun l

theorem lineStatus_spec (l : List Status) :
    (lineStatus l = .pass ↔ Status.pass ∈ l) ∧ (lineStatus l = .fail ↔ Status.pass ∉ l ∧ Status.fail ∈ l) ∧
    (lineStatus l = .skip ↔ Status.pass ∉ l ∧ Status.fail ∉ l) :=
  prio_spec (x := .pass) (y := .fail) nofun nofun nofun l

theorem bodyStatus_single (s : Status) : bodyStatus [s] = s := by cases s <;> rfl

theorem lineStatus_eq_body : ∀ {sts : List Status}, sts.length ≤ 1 → lineStatus sts = bodyStatus sts
  | [], _ => rfl
  | [s], _ => by cases s <;> rfl

theorem bodyStatus_mem {l : List Status} (h : bodyStatus l ≠ .skip) : bodyStatus l ∈ l := by
  obtain ⟨hf, hp, _⟩ := bodyStatus_spec l
  cases hb : bodyStatus l with
  | fail => exact hf.mp hb
  | pass => exact (hp.mp hb).2
  | skip => exact absurd hb h

theorem mem_flatten_of_mem_body {x : Status} {chunks : List (List Status)} (h : x ∈ chunks.map bodyStatus)
    (hx : x ≠ .skip) : x ∈ chunks.flatten := by
  obtain ⟨c, hc, rfl⟩ := List.mem_map.mp h
  exact List.mem_flatten.mpr ⟨c, hc, bodyStatus_mem hx⟩

/-- conversely a PASS or FAIL in a chunk shows among the chunk statuses, as itself or as a FAIL -/
theorem body_of_mem_flatten {y : Status} {chunks : List (List Status)} (h : y ∈ chunks.flatten) (hy : y ≠ .skip) :
    y ∈ chunks.map bodyStatus ∨ Status.fail ∈ chunks.map bodyStatus := by
  obtain ⟨c, hc, hyc⟩ := List.mem_flatten.mp h
  have hm := List.mem_map_of_mem (f := bodyStatus) hc
  obtain ⟨hf, hp, _⟩ := bodyStatus_spec c
  -- a FAIL in the chunk makes the chunk FAIL; without one `y` is a PASS, and so is the chunk
  by_cases hfc : Status.fail ∈ c
  · exact .inr (hf.mpr hfc ▸ hm)
  · cases y with
    | fail => exact absurd hyc hfc
    | pass => exact .inl (hp.mpr ⟨hfc, hyc⟩ ▸ hm)
    | skip => exact absurd rfl hy

theorem bodyStatus_flatten (chunks : List (List Status)) : bodyStatus (chunks.map bodyStatus) = bodyStatus chunks.flatten := by
  obtain ⟨hf, hp, hs⟩ := bodyStatus_spec chunks.flatten
  cases hb : bodyStatus (chunks.map bodyStatus) with
  | fail => exact (hf.mpr (mem_flatten_of_mem_body (hb ▸ bodyStatus_mem (hb ▸ nofun)) nofun)).symm
  | pass =>
    obtain ⟨h1, h2⟩ := (bodyStatus_spec _).2.1.mp hb
    exact (hp.mpr ⟨fun h => h1 ((body_of_mem_flatten h nofun).elim id id), mem_flatten_of_mem_body h2 nofun⟩).symm
  | skip =>
    obtain ⟨h1, h2⟩ := (bodyStatus_spec _).2.2.mp hb
    exact (hs.mpr ⟨fun h => h1 ((body_of_mem_flatten h nofun).elim id id),
      fun h => (body_of_mem_flatten h nofun).elim h2 h1⟩).symm

/-- `some` over the chunk statuses: a PASS or a FAIL is some chunk's, so it occurs in that chunk; with a SKIP no
    chunk holds a PASS -/
theorem someStatus_chunks (chunks : List (List Status)) :
    someStatus (chunks.map bodyStatus) = .pass ∧ .pass ∈ chunks.flatten ∨
    someStatus (chunks.map bodyStatus) = .fail ∧ .fail ∈ chunks.flatten ∨
    someStatus (chunks.map bodyStatus) = .skip ∧ .pass ∉ chunks.flatten := by
  obtain ⟨hp, hf, hs⟩ := prio_spec (x := .pass) (y := .fail) nofun nofun nofun (chunks.map bodyStatus)
  cases h : someStatus (chunks.map bodyStatus) with
  | pass => exact .inl ⟨rfl, mem_flatten_of_mem_body (hp.mp h) nofun⟩
  | fail => exact .inr (.inl ⟨rfl, mem_flatten_of_mem_body (hf.mp h).2 nofun⟩)
  | skip => exact .inr (.inr ⟨rfl, fun hy => (body_of_mem_flatten hy nofun).elim (hs.mp h).1 (hs.mp h).2⟩)

end Guard
