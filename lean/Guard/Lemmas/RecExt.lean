import Guard.Lemmas.ConsEval
/-
  Guard.Lemmas.RecExt — the recorder discipline of the evaluator: every function of the mutual block only ADDS
  records on top of the ones it found (it never drops, reorders or rewrites a record of its caller).  This is the
  first half of what `Inv` says, so it is read off `allInv`.
-/
namespace Guard

def RecExt {α} (m : M α) : Prop := ∀ st a st', m st = .ok (a, st') → ∃ new, st'.recs = new ++ st.recs

theorem RecExt.of_inv {α} {m : M α} {P : α → List Rec → Prop} (h : Inv m P) : RecExt m :=
  fun st a st' hr => let ⟨ps, e, _⟩ := h st a st' hr; ⟨ps.reverse, e⟩

structure AllRx (env : Env) (fuel : Nat) : Prop where
  qr : ∀ qi query current conv, RecExt (queryRetrieval env fuel qi query current conv)
  acc : ∀ parent qi query elements conv, RecExt (accumulate env fuel parent qi query elements conv)
  cad : ∀ cnf name index query key value conv, RecExt (checkAndDelegate env fuel cnf name index query key value conv)
  qctx : ∀ q, RecExt (queryCtx env fuel q)
  rvar : ∀ name, RecExt (resolveVariable env fuel name)
  rfun : ∀ name params, RecExt (resolveFunction env fuel name params)
  cnf : ∀ c, RecExt (evalCnf env fuel c)
  line : ∀ l, RecExt (evalLine env fuel l)
  alts : ∀ l, RecExt (evalAlternatives env fuel l)
  clause : ∀ c, RecExt (evalClause env fuel c)
  block : ∀ lets c, RecExt (evalGeneralBlock env fuel lets c)
  unary : ∀ q op opNot inverse msg, RecExt (unaryOperation env fuel q op opNot inverse msg)
  binary : ∀ q rhs op opNot msg, RecExt (binaryOperation env fuel q rhs op opNot msg)
  pcall : ∀ rule neg msg params, RecExt (evalParamCall env fuel rule neg msg params)
  rstat : ∀ name, RecExt (ruleStatus env fuel name)
  fns : ∀ rules, RecExt (firstNonSkip env fuel rules)
  rule : ∀ r, RecExt (evalRule env fuel r)

/-- **recorder discipline**: every function of the evaluator only adds records on top of the ones it found -/
theorem allRx (env : Env) (fuel : Nat) : AllRx env fuel :=
  have k := allInv env fuel
  { qr := fun _ _ _ _ => .of_inv (k.qr _ _ _ _), acc := fun _ _ _ _ _ => .of_inv (k.acc _ _ _ _ _)
    cad := fun _ _ _ _ _ _ _ => .of_inv (k.cad _ _ _ _ _ _ _), qctx := fun _ => .of_inv (k.qctx _)
    rvar := fun _ => .of_inv (k.rvar _), rfun := fun _ _ => .of_inv (k.rfun _ _)
    cnf := fun _ => .of_inv (k.cnf _), line := fun _ => .of_inv (k.line _), alts := fun _ => .of_inv (k.alts _)
    clause := fun _ => .of_inv (k.clause _), block := fun _ _ => .of_inv (k.block _ _)
    unary := fun _ _ _ _ _ => .of_inv (k.unary _ _ _ _ _)
    binary := fun _ _ _ _ _ => .of_inv (k.binary _ _ _ _ _), pcall := fun _ _ _ _ => .of_inv (k.pcall _ _ _ _)
    rstat := fun _ => .of_inv (k.rstat _), fns := fun _ => .of_inv (k.fns _)
    rule := fun _ => .of_inv (k.rule _) }

end Guard
