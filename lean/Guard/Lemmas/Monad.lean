import Guard.Model.Eval
import Guard.Lemmas.Outcome
/-
  Guard.Lemmas.Monad — reasoning about `M = StateT St Outcome`: what the state primitives return, inversion of `>>=`,
  a small Hoare logic for what a run does to the STATE (`Triple`; the walk of NoPanic and the query level of every walk
  use its rules) and its counterpart for what a run RETURNS (`Ret`; C04, C10).
-/
namespace Guard

instance : LawfulMonad Outcome := LawfulMonad.mk'
  (id_map := by intro _ x; cases x <;> rfl)
  (pure_bind := by intros; rfl)
  (bind_assoc := by intro _ _ _ x f g; cases x <;> rfl)

theorem alLookup_mem {β} {k : Str} {v : β} : ∀ {l : List (Str × β)}, alLookup k l = some v → (k, v) ∈ l
  | [], h => nomatch h
  | (k', v') :: rest, h => by
    unfold alLookup at h
    split at h
    · next hk => cases h; exact hk ▸ .head _
    · exact List.mem_cons_of_mem _ (alLookup_mem h)

theorem alInsert_mem {β} {k : Str} {v : β} {x : Str × β} : ∀ {l : List (Str × β)}, x ∈ alInsert k v l → x = (k, v) ∨ x ∈ l
  | [], h => .inl (List.mem_singleton.mp h)
  | (k', v') :: rest, h => by
    unfold alInsert at h
    split at h
    · exact (List.mem_cons.mp h).imp id (List.mem_cons_of_mem _)
    · exact (List.mem_cons.mp h).elim (fun e => .inr (e ▸ .head _)) fun h => (alInsert_mem h).imp id (List.mem_cons_of_mem _)

theorem alLookup_alInsert_self {β} (k : Str) (v : β) (m : List (Str × β)) : alLookup k (alInsert k v m) = some v := by
  induction m with
  | nil => exact if_pos rfl
  | cons kv rest ih =>
    unfold alInsert
    split
    · exact if_pos rfl
    · next h => exact (if_neg h).trans ih

theorem pure_run {α} (a : α) (st : St) : (pure a : M α) st = .ok (a, st) := rfl
theorem get_run (st : St) : (get : M St) st = .ok (st, st) := rfl
theorem modify_run (f : St → St) (st : St) : (modify f : M Unit) st = .ok ((), f st) := rfl
theorem pushFrame_run (f : Frame) (st : St) : pushFrame f st = .ok ((), { st with frames := f :: st.frames }) := rfl
theorem popFrame_run (st : St) : popFrame st = .ok ((), { st with frames := st.frames.tail }) := rfl
theorem emit_run (k : RecKind) (st : St) : emit k st = .ok ((), { st with recs := Rec.node k [] :: st.recs }) := rfl

theorem bind_run {α β} (x : M α) (f : α → M β) (st : St) :
    (x >>= f) st = match x st with
      | .ok (a, st₁) => f a st₁
      | .err e => .err e
      | .panic s => .panic s
      | .outOfFuel => .outOfFuel := by
  simp only [bind, StateT.bind]
  cases x st <;> rfl

theorem M.bind_run_ok {α β} {x : M α} {f : α → M β} {st st₁ : St} {a : α} (h : x st = .ok (a, st₁)) :
    (x >>= f) st = f a st₁ := by
  rw [bind_run, h]

theorem M.bind_ok {α β} {x : M α} {f : α → M β} {st st' : St} {b : β}
    (h : (x >>= f) st = .ok (b, st')) : ∃ a st₁, x st = .ok (a, st₁) ∧ f a st₁ = .ok (b, st') := by
  rw [bind_run] at h
  split at h
  · exact ⟨_, _, ‹_›, h⟩
  all_goals cases h

theorem M.pure_ok {α} {a b : α} {st st' : St} (h : (pure a : M α) st = .ok (b, st')) : b = a ∧ st' = st := by
  cases h; exact ⟨rfl, rfl⟩

theorem liftO_ok {α} {o : Outcome α} {st st' : St} {a : α} (h : liftO o st = .ok (a, st')) : o = .ok a ∧ st' = st := by
  cases o <;> cases h; exact ⟨rfl, rfl⟩

theorem liftO_panic {α} {o : Outcome α} {st : St} {s : PanicSite} (h : liftO o st = .panic s) : o = .panic s := by
  cases o <;> cases h; rfl

theorem withRec_ok {α} {mk : α → RecKind} {m : M α} {st st' : St} {a : α}
    (h : withRec mk m st = .ok (a, st')) :
    ∃ st'', m { st with recs := [] } = .ok (a, st'') ∧
      st' = { st'' with recs := Rec.node (mk a) st''.recs.reverse :: st.recs } := by
  unfold withRec at h
  split at h
  · cases h; exact ⟨_, ‹_›, rfl⟩
  all_goals cases h

theorem withRec_panic {α} {mk : α → RecKind} {m : M α} {st : St} {s : PanicSite}
    (h : withRec mk m st = .panic s) : m { st with recs := [] } = .panic s := by
  unfold withRec at h
  split at h <;> cases h
  assumption

/-- a whole-file evaluation leaves exactly one record, from the shape of `withRec` alone: the record-list pattern match of
    `runFile` (the model's `.panic .other`) cannot fail.  What that record looks like is `cf_file_top` (ConsEval). -/
theorem runFile_never_panics_on_records (env : Env) (fuel : Nat) (file : RulesFile) (doc : PV) (s : Status) (st : St)
    (h : evalRulesFile env fuel file (St.init file doc) = .ok (s, st)) : ∃ r, st.recs = [r] := by
  unfold evalRulesFile at h
  obtain ⟨st'', _, e⟩ := withRec_ok h
  exact ⟨_, by rw [e]; rfl⟩

theorem runFile_ok {env : Env} {fuel : Nat} {file : RulesFile} {doc : PV} {s : Status} {t : Rec}
    (h : runFile env fuel file doc = .ok (s, t)) :
    ∃ st, evalRulesFile env fuel file (St.init file doc) = .ok (s, st) ∧ st.recs = [t] := by
  unfold runFile at h
  split at h
  · split at h
    · cases h; exact ⟨_, ‹_›, ‹_›⟩
    · cases h
  all_goals cases h

/-! ### a Hoare logic for `M`

`Triple pre R B m`: started in a state satisfying `pre`, a successful run of `m` ends in a state related to the
start by `R`, and `m` panics only at sites in `B`.  Errors and fuel exhaustion are unconstrained.  The post-condition
is a relation between states only, so sequencing needs no intermediate assertion, just a preorder that keeps `pre`
(`Law`).  A structure and not a definition: a definition the elaborator unfolds, and with it the run of `m`, every time a
rule is applied. -/

structure Triple (pre : St → Prop) (R : St → St → Prop) (B : PanicSite → Prop) {α} (m : M α) : Prop where of_sat ::
  sat : ∀ st, pre st → (m st).Sat B fun p => R st p.2

section
variable {pre : St → Prop} {R : St → St → Prop} {B : PanicSite → Prop}

theorem triple_throwErr {α} (e : ErrKind) : Triple pre R B (throwErr e : M α) := ⟨fun _ _ => trivial⟩

theorem triple_outOfFuel {α} : Triple pre R B (outOfFuel : M α) := ⟨fun _ _ => trivial⟩

theorem triple_throwPanic {α} {s : PanicSite} (hs : B s) : Triple pre R B (throwPanic s : M α) := ⟨fun _ _ => hs⟩

theorem triple_modify {f : St → St} (hf : ∀ st, R st (f st)) : Triple pre R B (modify f : M Unit) := ⟨fun st _ => hf st⟩

theorem triple_ite {α} {c : Prop} [Decidable c] {t e : M α} (ht : Triple pre R B t) (he : Triple pre R B e) :
    Triple pre R B (if c then t else e) := by
  split <;> assumption

theorem triple_dite {α} {c : Prop} [Decidable c] {t e : M α} (ht : c → Triple pre R B t) (he : ¬c → Triple pre R B e) :
    Triple pre R B (if c then t else e) := by
  split
  · exact ht ‹_›
  · exact he ‹_›

class Law (pre : St → Prop) (R : St → St → Prop) : Prop where
  refl : ∀ st, R st st
  trans : ∀ {a b c}, R a b → R b c → R a c
  keeps : ∀ {a b}, pre a → R a b → pre b

variable [L : Law pre R]

theorem triple_pure {α} (a : α) : Triple pre R B (pure a : M α) := ⟨fun st _ => L.refl st⟩

theorem triple_get : Triple pre R B (get : M St) := ⟨fun st _ => L.refl st⟩

theorem triple_currentRoot (hB : ∀ st, pre st → rootOfFrames st.frames = none → B .other) :
    Triple pre R B currentRoot := by
  refine ⟨fun st hst => ?_⟩
  unfold currentRoot
  split
  · exact L.refl st
  · exact hB st hst ‹_›

theorem triple_liftO {α} {o : Outcome α} (ho : o.Sat B fun _ => True) : Triple pre R B (liftO o) :=
  ⟨fun st _ => .intro (fun _ h => (liftO_ok h).2 ▸ L.refl st) fun _ h => ho.of_panic (liftO_panic h)⟩

theorem triple_bind_ev {α β} {m : M α} {f : α → M β} (hm : Triple pre R B m)
    (hf : ∀ a, (∃ st st₁, pre st ∧ m st = .ok (a, st₁)) → Triple pre R B (f a)) : Triple pre R B (m >>= f) := by
  refine ⟨fun st hst => ?_⟩
  have h := hm.sat st hst
  rw [bind_run]
  sat_bind h
  next a st₁ e =>
    -- `f a` starts in the state `m` left, which is a `pre` state again
    have r1 : R st st₁ := h.of_ok e
    exact ((hf a ⟨st, st₁, hst, e⟩).sat st₁ (L.keeps hst r1)).mono (fun _ hs => hs) fun _ => L.trans r1

theorem triple_bind {α β} {m : M α} {f : α → M β} (hm : Triple pre R B m) (hf : ∀ a, Triple pre R B (f a)) :
    Triple pre R B (m >>= f) :=
  triple_bind_ev hm fun a _ => hf a

theorem triple_mapM {α β} {f : α → M β} : ∀ (l : List α), (∀ a ∈ l, Triple pre R B (f a)) → Triple pre R B (l.mapM f)
  | [], _ => by rw [List.mapM_nil]; exact triple_pure _
  | a :: l, hf => by
    rw [List.mapM_cons]
    exact triple_bind (hf a (by simp)) fun _ =>
      triple_bind (triple_mapM l fun x hx => hf x (List.mem_cons_of_mem _ hx)) fun _ => triple_pure _

theorem triple_filterMapM {α β} {f : α → M (Option β)} (hf : ∀ a, Triple pre R B (f a)) :
    ∀ (l : List α), Triple pre R B (l.filterMapM f)
  | [] => by rw [List.filterMapM_nil]; exact triple_pure _
  | a :: l => by
    rw [List.filterMapM_cons]
    refine triple_bind (hf a) fun b => ?_
    cases b with
    | none => exact triple_filterMapM hf l
    | some b => exact triple_bind (triple_filterMapM hf l) fun _ => triple_pure _

theorem triple_forIn {α β} {f : α → β → M (ForInStep β)} (hf : ∀ a b, Triple pre R B (f a b)) :
    ∀ (l : List α) (b : β), Triple pre R B (forIn l b f)
  | [], b => by rw [List.forIn_nil]; exact triple_pure _
  | a :: l, b => by
    rw [List.forIn_cons]
    refine triple_bind (hf a b) fun r => ?_
    cases r with
    | done b => exact triple_pure _
    | yield b => exact triple_forIn hf l b

theorem triple_map {α β} {m : M α} {g : α → β} (hm : Triple pre R B m) : Triple pre R B (do let a ← m; pure (g a)) :=
  triple_bind hm fun _ => triple_pure _

theorem triple_flatMapM {α β} {f : α → M (List β)} {l : List α} (hf : ∀ a, Triple pre R B (f a)) :
    Triple pre R B (do let rows ← l.mapM f; pure rows.flatten) :=
  triple_map (triple_mapM l fun a _ => hf a)

/-- stated for `Option PV` and not for any `Option`: a compiled `match` only unifies with one over the same type -/
theorem triple_lookup {α} {o : Option PV} {f : PV → M α} {a : α} (hf : ∀ v, Triple pre R B (f v)) :
    Triple pre R B (match o with | some v => f v | none => pure a) := by
  split <;> first | exact hf _ | exact triple_pure _

theorem triple_accumulateMap {parent : PV} {ks : List (Path × Str)} {vs : List PV} {qi : Nat}
    {query : List QueryPart} {func : PV → PV → M (List QR)}
    (hscope : ∀ (v : PV) {m : M (List QR)}, Triple pre R B m → Triple pre R B (withValueScope v m))
    (hf : ∀ k v, Triple pre R B (func k v)) : Triple pre R B (accumulateMap parent ks vs qi query func) := by
  unfold accumulateMap
  exact triple_ite (triple_pure _) (triple_flatMapM fun _ => hscope _ (hf _ _))

theorem triple_findParamRule (name : Str) : Triple pre R B (findParamRule name) :=
  triple_bind triple_get fun _ => by split <;> first | exact triple_pure _ | exact triple_throwErr _

end

/-! ### `resolveVariable` and `ruleStatus` edit the scope stack by hand, so no rule applies

Of what each returns on a state, `Outcome.Sat` says every way it can panic and every way it can succeed; `.of_panic` and
`.of_ok` read off either half. -/

def VarDef (env : Env) (fuel : Nat) (name : Str) (b : BlockFrame) (m : M (List QR)) : Prop :=
  (∃ fn ps, alLookup name b.funs = some (fn, ps) ∧ m = resolveFunction env fuel fn ps) ∨
  (∃ q all, alLookup name b.queries = some (q, all) ∧ m = queryRetrieval env fuel 0 q b.root none)

/-- every way `resolveVariable` can panic, and every way it can succeed: the top frame answers and the state stays; or the
    outer frames are asked and the top frame is put back; or the definition `m` of the variable is run with the variable
    marked as in progress, and `finish` memoises the result in the block frame it finds on top (it panics if there is none) -/
theorem resolveVariable_sat {env : Env} {fuel : Nat} {name : Str} {st : St} :
    (resolveVariable env (fuel + 1) name st).Sat
      (fun s =>
        (∃ f rest, st.frames = f :: rest ∧ rest.isEmpty = false ∧
          resolveVariable env fuel name { st with frames := rest } = .panic s) ∨
        (∃ b rest m, st.frames = .block b :: rest ∧ VarDef env fuel name b m ∧
          (m { st with frames := .block { b with inProgress := name :: b.inProgress } :: rest } = .panic s ∨
           ∃ r0 s2, m { st with frames := .block { b with inProgress := name :: b.inProgress } :: rest } = .ok (r0, s2) ∧
             ∀ b' rest', s2.frames ≠ .block b' :: rest')))
      (fun (r, st') =>
        st' = st ∨
        (∃ f rest s2, st.frames = f :: rest ∧ rest.isEmpty = false ∧
          resolveVariable env fuel name { st with frames := rest } = .ok (r, s2) ∧ st' = { s2 with frames := f :: s2.frames }) ∨
        (∃ b rest m r0 s2 b' rest', st.frames = .block b :: rest ∧ VarDef env fuel name b m ∧
          m { st with frames := .block { b with inProgress := name :: b.inProgress } :: rest } = .ok (r0, s2) ∧
          s2.frames = .block b' :: rest' ∧
          st' = { s2 with frames := .block { b' with inProgress := b'.inProgress.tail, memo := alInsert name r b'.memo } :: rest' })) := by
  -- `rw` keeps the local definitions `delegate`, `startVar`, `finish` of the code; each is treated once
  -- (`extract_lets` lifts `finish` out of the arm it is written in: it does not depend on that arm's variables)
  rw [resolveVariable]; dsimp -zeta only
  split
  · trivial
  next f rest hf =>
  extract_lets delegate finish
  refine (?_ : Outcome.Sat ?S ?P _)  -- names for the two predicates of the statement
  have hdel : delegate.Sat ?S ?P := by
    simp only [delegate]
    split
    · trivial
    · have hne := (Bool.not_eq_true _).mp ‹_›
      split
      · exact .inr (.inl ⟨f, rest, _, hf, hne, ‹_›, rfl⟩)
      · next hnok => exact .intro (fun _ e => (hnok _ _ e).elim) fun _ e => .inl ⟨f, rest, hf, hne, e⟩
  clear_value delegate
  split
  · exact hdel
  · split
    · exact .inl rfl
    · exact hdel
  next b =>
  split
  · exact .inl rfl
  split
  · exact .inl rfl
  extract_lets nb startVar
  have hfin : ∀ m, VarDef env fuel name b m → ∀ g : List QR → List QR, Outcome.Sat ?S ?P
      (match m { st with frames := .block nb :: rest } with
        | .ok (result, st') => finish (g result) st'
        | e => e) := by
    intro m hm g
    split
    · simp only [finish]; split
      · exact .inr (.inr ⟨b, rest, m, _, _, _, _, hf, hm, ‹_›, ‹_›, rfl⟩)
      · next hnb => exact .inr ⟨b, rest, m, hf, hm, .inr ⟨_, _, ‹_›, hnb⟩⟩
    · next hnok => exact .intro (fun _ e => (hnok _ _ e).elim) fun _ e => .inr ⟨b, rest, m, hf, hm, .inl e⟩
  simp only [startVar]
  split
  · exact .ite trivial (hfin _ (.inl ⟨_, _, ‹_›, rfl⟩) id)
  split
  · exact .ite trivial (hfin _ (.inr ⟨_, _, ‹_›, rfl⟩) _)
  · exact hdel

/-- a memo hit leaves the state; otherwise the rules of that name are evaluated on the root scope alone, and the inner
    frames are put back in front of what they leave of it -/
theorem ruleStatus_sat {env : Env} {fuel : Nat} {name : Str} {st : St} :
    (ruleStatus env (fuel + 1) name st).Sat
      (fun p => firstNonSkip env fuel (st.file.rules.filter fun r => r.name = name)
        { st with rulesInProgress := name :: st.rulesInProgress, frames := st.frames.drop st.frames.dropLast.length } = .panic p)
      (fun (s, st') => st' = st ∨ ∃ s4,
        firstNonSkip env fuel (st.file.rules.filter fun r => r.name = name)
          { st with rulesInProgress := name :: st.rulesInProgress, frames := st.frames.drop st.frames.dropLast.length } = .ok (s, s4) ∧
        st' = { s4 with rulesInProgress := s4.rulesInProgress.tail, frames := st.frames.dropLast ++ s4.frames,
                        ruleStatus := alInsert name s s4.ruleStatus }) := by
  simp only [ruleStatus, bind_run, get_run]
  cases alLookup name st.ruleStatus with
  | some s => exact .inl rfl
  | none =>
    simp only [rulesNamed, bind_run, get_run, pure_run]
    split
    · trivial
    split
    · trivial
    simp only [bind_run, modify_run, pure_run]
    split
    · exact .inr ⟨_, ‹_›, rfl⟩
    · trivial
    · assumption
    · trivial

/-! ### what a run returns

`Ret P m`: whatever a successful run of `m` returns satisfies `P`, from every state.  The counterpart of `Triple`,
whose post-condition speaks of the states only. -/

def Ret {α} (P : α → Prop) (m : M α) : Prop := ∀ st a st', m st = .ok (a, st') → P a

section
variable {α β : Type} {P : α → Prop} {Q : β → Prop}

theorem ret_pure {a : α} (h : P a) : Ret P (pure a : M α) := fun _ _ _ hr => (M.pure_ok hr).1 ▸ h

theorem ret_fail {m : M α} (h : ∀ st p, m st ≠ .ok p) : Ret P m := fun st _ _ hm => absurd hm (h st _)

theorem ret_bind {m : M α} {f : α → M β} (hm : Ret P m) (hf : ∀ a, P a → Ret Q (f a)) : Ret Q (m >>= f) :=
  fun _ _ _ h => let ⟨a, s1, h1, h2⟩ := M.bind_ok h; hf a (hm _ _ _ h1) s1 _ _ h2

theorem ret_after {m : M α} {f : α → M β} (hf : ∀ a, Ret Q (f a)) : Ret Q (m >>= f) :=
  ret_bind (P := fun _ => True) (fun _ _ _ _ => trivial) fun a _ => hf a

theorem ret_ite {c : Prop} [Decidable c] {t e : M α} (ht : Ret P t) (he : Ret P e) : Ret P (if c then t else e) := by
  split <;> assumption

theorem ret_withValueScope {root : PV} {m : M α} (hm : Ret P m) : Ret P (withValueScope root m) :=
  ret_after fun _ => ret_bind hm fun _ hr => ret_after fun _ => ret_pure hr

theorem ret_mapM {f : α → M β} : ∀ (l : List α), (∀ a ∈ l, Ret Q (f a)) →
    Ret (fun bs => bs.length = l.length ∧ ∀ b ∈ bs, Q b) (l.mapM f)
  | [], _ => by rw [List.mapM_nil]; exact ret_pure ⟨rfl, nofun⟩
  | a :: l, hf => by
    rw [List.mapM_cons]
    refine ret_bind (hf a List.mem_cons_self) fun b hb =>
      ret_bind (ret_mapM l fun x hx => hf x (List.mem_cons_of_mem _ hx)) fun bs hbs => ret_pure ⟨congrArg (· + 1) hbs.1, ?_⟩
    exact List.forall_mem_cons.2 ⟨hb, hbs.2⟩

end

end Guard
