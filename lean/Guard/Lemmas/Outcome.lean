import Guard.Model.Ops
/-
  Guard.Lemmas.Outcome — `Outcome.Sat S P o`: the one predicate in which "which panics can this raise, and what does
  it return" is said of the pure layers (Compare, Ops, Functions) and, through `m st`, of actions in `M`.
-/
namespace Guard

def Outcome.Sat {α} (S : PanicSite → Prop) (P : α → Prop) : Outcome α → Prop
  | .ok a => P a
  | .panic s => S s
  | _ => True

abbrev Outcome.Safe {α} (P : α → Prop) (o : Outcome α) : Prop := o.Sat (fun _ => False) P
abbrev Outcome.NP {α} (o : Outcome α) : Prop := o.Safe fun _ => True

namespace Outcome.Sat
variable {α β : Type} {S S' : PanicSite → Prop} {P P' : α → Prop} {Q : β → Prop} {o : Outcome α}

theorem mono (h : o.Sat S P) (hS : ∀ s, S s → S' s) (hP : ∀ a, P a → P' a) : o.Sat S' P' := by
  cases o <;> first | exact hP _ h | exact hS _ h | trivial

theorem intro (hok : ∀ a, o = .ok a → P a) (hp : ∀ s, o = .panic s → S s) : o.Sat S P := by
  cases o <;> first | exact hok _ rfl | exact hp _ rfl | trivial

theorem top (o : Outcome α) : o.Sat (fun _ => True) fun _ => True := by cases o <;> trivial

theorem of_ok (h : o.Sat S P) {a : α} (e : o = .ok a) : P a := by subst e; exact h
theorem of_panic (h : o.Sat S P) {s : PanicSite} (e : o = .panic s) : S s := by subst e; exact h

/-- an arm `| e => e` that is not the `.ok` arm -/
theorem pass (h : o.Sat S P) (hn : ∀ a, o = .ok a → False) : o.Sat S P' := by
  cases o <;> first | exact (hn _ rfl).elim | exact h

theorem bind {x : Outcome α} {f : α → Outcome β} (hx : x.Sat S P) (hf : ∀ a, P a → (f a).Sat S Q) :
    (x >>= f).Sat S Q := by
  cases x <;> first | exact hf _ hx | exact hx | trivial

/-- panics in `S` under a condition `c`: what a leaf of a walk under a flag needs -/
theorem guard {c : Prop} {o : Outcome α} (h : c → o.Sat S fun _ => True) : o.Sat (fun x => c → S x) fun _ => True := by
  cases o <;> first | trivial | exact fun hc => h hc

theorem ite {c : Prop} [Decidable c] {a b : Outcome α} (ha : a.Sat S P) (hb : b.Sat S P) :
    (if c then a else b).Sat S P := by split <;> assumption

end Outcome.Sat

theorem Outcome.NP.sat {α} {o : Outcome α} (h : o.NP) {S : PanicSite → Prop} : o.Sat S fun _ => True :=
  h.mono nofun fun _ _ => trivial

/-- For a goal `(match x with | .ok a => k a | ..).Sat S Q` whose other arms hand an error, a panic or fuel exhaustion
    of `x` through, given `h : x.Sat S P`: split on `x`, close the arms that hand through (from `h`) and the `.ok`
    arms that hold by computation; an `.ok` arm that needs an argument is left, with `x = .ok a` in the context.
    The model writes its binds out as such matches; they are compiled to matchers at a fixed result type, which unify
    neither with `Outcome.bind` nor with a lemma stated for any type, so `Outcome.Sat.bind` applies to `do` blocks only. -/
macro "sat_bind " h:term : tactic =>
  `(tactic| (split <;> first | exact trivial | assumption | exact Outcome.Sat.of_panic $h ‹_› | exact Outcome.Sat.pass $h ‹_› | skip))

theorem mapMOutcome_sat {α β} {S} {P : β → Prop} {f : α → Outcome β} :
    ∀ l, (∀ a ∈ l, (f a).Sat S P) → (mapMOutcome f l).Sat S fun r => ∀ y ∈ r, P y
  | [], _ => fun _ h => nomatch h
  | x :: xs, hf => by
    have hx := hf x (List.mem_cons_self ..)
    have hxs := mapMOutcome_sat xs fun a ha => hf a (List.mem_cons_of_mem _ ha)
    unfold mapMOutcome
    sat_bind hx; sat_bind hxs
    exact List.forall_mem_cons.mpr ⟨hx.of_ok ‹_›, hxs.of_ok ‹_›⟩

theorem mapMOutcome_np {α β} {f : α → Outcome β} (hf : ∀ a, (f a).NP) (l : List α) : (mapMOutcome f l).NP :=
  (mapMOutcome_sat l fun a _ => hf a).mono (fun _ h => h) fun _ _ => trivial

end Guard
