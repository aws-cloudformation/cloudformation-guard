import Guard.Lemmas.ConsOps
import Guard.Lemmas.Status
import Guard.Lemmas.QueryWalk
/-
  Guard.Lemmas.ConsEval — every function of the evaluator's mutual block pushes only consistent record trees; from
  `evalCnf` down to the operations, what it pushes also explains the status it returns (`AllInv` says what exactly, per
  function: the query functions push filter records only, `ruleStatus` / `firstNonSkip` rule records only).
  One lemma `cf_<function>` per function of the block, written along its code; `allInv` is the induction on fuel.
-/
namespace Guard

/-- no line record is a condition record (`RuleCondition` / `WhenCondition` / `TypeCondition`) -/
def NoCond (ps : List Rec) : Prop := ∀ r ∈ lineRecs ps, isCond r.kind = false

def PCnf (s : Status) (ps : List Rec) : Prop := (∃ sts, Explains (lineRecs ps) sts ∧ s = bodyStatus sts) ∧ NoCond ps

/-- `sts`, the statuses of the alternatives evaluated, explain the line records, and only the last of them may be a PASS -/
def PAlts (sts : List Status) (ps : List Rec) : Prop :=
  Explains (lineRecs ps) sts ∧ stopsAtFirstPass sts = true ∧ NoCond ps

def PClause (s : Status) (ps : List Rec) : Prop := ∃ L, lineRecs ps = [L] ∧ s ∈ lineOptions L ∧ isCond L.kind = false

def IsRuleRec (r : Rec) : Prop := ∃ n s m ch, r = Rec.node (.ruleCheck n s m) ch

def AllRule (ps : List Rec) : Prop := ∀ r ∈ lineRecs ps, IsRuleRec r

def VC (ps : List Rec) : List Status := (ps.filter isValueCheck).map Rec.status

/-- the value-check leaves carry, in order, the per-value outcomes the operation returned -/
def POp (res : EvaluationResult) (ps : List Rec) : Prop :=
  match res with
  | .emptyQueryResult s => VC ps = [] ∨ ∃ b, VC ps = [boolStatus b] ∧ s = boolStatus b
  | .queryValueResult rs => (VC ps).map (· == Status.pass) = rs.map (·.2)

/-- besides filter records, only value-check leaves -/
def AllVC (ps : List Rec) : Prop := (lineRecs ps).all isValueCheck = true

/-- what an operation pushes: the value checks for its result, and besides them filter records only -/
def POpV (res : EvaluationResult) (ps : List Rec) : Prop := POp res ps ∧ AllVC ps

structure AllInv (env : Env) (fuel : Nat) : Prop where
  qr : ∀ qi query current conv, InvF (queryRetrieval env fuel qi query current conv)
  acc : ∀ parent qi query elements conv, InvF (accumulate env fuel parent qi query elements conv)
  cad : ∀ cnf name index query key value conv, InvF (checkAndDelegate env fuel cnf name index query key value conv)
  qctx : ∀ q, InvF (queryCtx env fuel q)
  rvar : ∀ name, InvF (resolveVariable env fuel name)
  rfun : ∀ name params, InvF (resolveFunction env fuel name params)
  cnf : ∀ c, Inv (evalCnf env fuel c) PCnf
  line : ∀ l, Inv (evalLine env fuel l) (fun s ps => (∃ sts, Explains (lineRecs ps) sts ∧ stopsAtFirstPass sts = true ∧
      s = lineStatus sts ∧ sts.length ≤ l.length ∧ (l ≠ [] → sts ≠ [])) ∧ NoCond ps)
  alts : ∀ l, Inv (evalAlternatives env fuel l) (fun sts ps => PAlts sts ps ∧ (l ≠ [] → sts ≠ []) ∧ sts.length ≤ l.length)
  clause : ∀ c, Inv (evalClause env fuel c) PClause
  block : ∀ lets c, Inv (evalGeneralBlock env fuel lets c) PCnf
  unary : ∀ q op opNot inverse msg, Inv (unaryOperation env fuel q op opNot inverse msg) POpV
  binary : ∀ q rhs op opNot msg, Inv (binaryOperation env fuel q rhs op opNot msg) POpV
  pcall : ∀ rule neg msg params, Inv (evalParamCall env fuel rule neg msg params) PClause
  rstat : ∀ name, Inv (ruleStatus env fuel name) (fun _ ps => AllRule ps)
  fns : ∀ rules, Inv (firstNonSkip env fuel rules) (fun _ ps => AllRule ps)
  rule : ∀ r, Inv (evalRule env fuel r) (fun s ps => ∃ ch, ps = [Rec.node (.ruleCheck r.name s none) ch])

theorem lineOnly_PCnf : LineOnly PCnf := fun _ _ _ h => by simp only [PCnf, NoCond, h, imp_self]

theorem lineOnly_PClause : LineOnly PClause := fun _ _ _ h => by simp only [PClause, h, imp_self]

/-- what the records of a condition, a filter, a rule body ask of the lines under them -/
theorem Inv.aggOk {m : M Status} (h : Inv m PCnf) : Inv m fun s ps => aggOk bodyStatus s (lineRecs ps) = true :=
  inv_weaken h fun _ _ ⟨⟨_, hE, hs⟩, _⟩ => aggOk_of_explains hE hs

theorem noCond_nil : NoCond [] := nofun

theorem allRule_nil : AllRule [] := nofun

theorem allRule_single (n : Str) (s : Status) (m : Option Str) (ch : List Rec) : AllRule [Rec.node (.ruleCheck n s m) ch] := by
  intro r hr
  simp [lineRecs, Rec.kind, RecKind.isFilter] at hr
  exact ⟨n, s, m, ch, hr⟩

theorem PClause.explains {s : Status} {ps : List Rec} : PClause s ps → Explains (lineRecs ps) [s] ∧ NoCond ps :=
  fun ⟨L, hL, hs, hk⟩ => ⟨by rw [hL]; exact ⟨hs, trivial⟩, by unfold NoCond; rw [hL]; exact List.forall_mem_singleton.mpr hk⟩

theorem PClause.toCnf {s : Status} {ps : List Rec} (h : PClause s ps) : PCnf s ps :=
  ⟨⟨[s], (PClause.explains h).1, (bodyStatus_single s).symm⟩, (PClause.explains h).2⟩

/-- a composite record that stands for a clause: one line, carrying the status returned -/
theorem inv_withRec_clause {mk : Status → RecKind} {m : M Status} (hk : ∀ s, (mk s).isFilter = false ∧ isCond (mk s) = false)
    (hm : Inv m fun s ps => nodeOk (mk s) ps = true ∧ lineOptions (Rec.node (mk s) ps) = [s]) : Inv (withRec mk m) PClause :=
  inv_withRec hm fun s ps h =>
    ⟨h.1, Rec.node (mk s) ps, by simp [lineRecs, Rec.kind, (hk s).1], by rw [h.2]; exact .head _, (hk s).2⟩

/-- a condition record and, if the condition passed, the body: the shape of a rule, a `when` block and a type block.
    `B` is what the parent record asks of the body's lines (`hmk` holds by `rfl` for each of the three). -/
theorem inv_cond_body {mk cond : Status → RecKind} {B : Status → List Rec → Bool} {mc body : M Status}
    (hmk : ∀ s c ch rest, nodeOk (mk s) (Rec.node (cond c) ch :: rest) =
      if c != .pass then s == .skip && (lineRecs rest).isEmpty else B s (lineRecs rest))
    (hc : Inv mc fun c ps => nodeOk (cond c) ps = true) (hb : Inv body fun s ps => B s (lineRecs ps) = true) :
    Inv (do let c ← withRec cond mc; if c != .pass then pure .skip else body) fun s ps => nodeOk (mk s) ps = true := by
  refine inv_bind (inv_withRec1 hc) (P2 := fun c s ps => if c != .pass then s = .skip ∧ ps = [] else B s (lineRecs ps) = true)
    (fun c => ?_) ?_
  · split
    · exact inv_pure _ ⟨rfl, rfl⟩
    · exact hb
  · rintro c _ s ps2 ⟨ch, rfl⟩ h2
    rw [List.singleton_append, hmk]
    split at h2
    · obtain ⟨rfl, rfl⟩ := h2; rw [if_pos ‹_›]; rfl
    · rw [if_neg ‹_›]; exact h2

theorem stops_cons {s : Status} {more : List Status} (hs : s = .pass → more = []) (hm : stopsAtFirstPass more = true) :
    stopsAtFirstPass (s :: more) = true := by
  cases more with
  | nil => rfl
  | cons m ms =>
    simp only [stopsAtFirstPass, Bool.and_eq_true, bne_iff_ne, ne_eq]
    exact ⟨fun h => List.cons_ne_nil _ _ (hs h), hm⟩

/-- the lines fall into one chunk per element, and each element's status is the aggregate of its chunk -/
def PChunks (sts : List Status) (ps : List Rec) : Prop :=
  ∃ chunks : List (List Status), Explains (lineRecs ps) chunks.flatten ∧ sts = chunks.map bodyStatus

theorem inv_mapM_cnf {α} {f : α → M Status} (hf : ∀ a, Inv (f a) PCnf) :
    ∀ l : List α, Inv (l.mapM f) fun sts ps => PChunks sts ps ∧ NoCond ps :=
  inv_mapM (P := fun _ => PCnf) (Q := fun _ sts ps => PChunks sts ps ∧ NoCond ps) hf ⟨⟨[], trivial, rfl⟩, noCond_nil⟩ <| by
    rintro _ _ s sts ps1 ps2 ⟨⟨c, hE1, rfl⟩, n1⟩ ⟨⟨chunks, hE2, rfl⟩, n2⟩
    exact ⟨⟨c :: chunks, by rw [lineRecs_append]; exact explains_append hE1 hE2, rfl⟩, forall_lineRecs_append n1 n2⟩

theorem isCond_ruleCondition (c : Status) : isCond (RecKind.ruleCondition c) = true := rfl

theorem nodeOk_rule_nocond {name : Str} {s : Status} {m : Option Str} {ps : List Rec}
    (h : PCnf s ps) : nodeOk (.ruleCheck name s m) ps = true := by
  obtain ⟨⟨sts, hE, hs⟩, hnc⟩ := h
  simp only [nodeOk]
  split
  · rename_i c ch rest hl
    exact nomatch (isCond_ruleCondition c).symm.trans (hnc (Rec.node (.ruleCondition c) ch) (hl ▸ .head _))
  · exact aggOk_of_explains hE hs

/-- the one place where a record is rewritten after it was closed: the called rule's record gets the caller's
    message.  Nothing `nodeOk` reads changes. -/
theorem inv_retag {m : M Status} {n rule : Str} {msg : Option Str} {g : Status → Status}
    (hm : Inv m fun s ps => ∃ ch, ps = [Rec.node (.ruleCheck n s none) ch]) :
    Inv (do
      let s ← m
      popFrame
      modify fun st =>
        match st.recs with
        | .node (.ruleCheck n s' _) ch :: rest =>
          if n = rule then { st with recs := .node (.ruleCheck n s' msg) ch :: rest } else st
        | _ => st
      pure (g s)) fun a ps => ∃ s m' ch, a = g s ∧ ps = [Rec.node (.ruleCheck n s m') ch] := by
  intro st a st' h
  obtain ⟨s, s1, h1, h2⟩ := M.bind_ok h
  obtain ⟨_, e, c, ch, rfl⟩ := hm st s s1 h1
  cases h2
  simp only [ConsistentList, Bool.and_true] at c
  simp only [e, List.reverse_cons, List.reverse_nil, List.nil_append, List.singleton_append]
  split
  · exact ⟨_, rfl, by simpa [ConsistentList, Consistent, nodeOk] using c, s, msg, ch, rfl, rfl⟩
  · exact ⟨_, rfl, by simpa [ConsistentList] using c, s, none, ch, rfl, rfl⟩

/-- value checks are line records, so `VC` too reads the line records only -/
theorem VC_lineRecs (ps : List Rec) : VC (lineRecs ps) = VC ps := by
  unfold VC lineRecs
  rw [List.filter_filter]
  congr 1
  refine List.filter_congr fun r _ => ?_
  obtain ⟨k, ch⟩ := r
  cases k <;> rfl

theorem lineOnly_POpV : LineOnly POpV := fun res ps ps' h => by
  unfold POpV POp AllVC
  rw [← VC_lineRecs ps, ← VC_lineRecs ps', h]; exact id

theorem Lines.vc {sts : List Status} {ps : List Rec} (h : Lines isValueCheck sts ps) : VC ps = sts := by
  rw [← VC_lineRecs, VC, List.filter_eq_self.mpr (List.all_eq_true.mp h.1), h.2]

theorem POpV.of_lines {rs : List (QR × Bool)} {ps : List Rec} (h : Lines isValueCheck (rs.map fun r => boolStatus r.2) ps) :
    POpV (.queryValueResult rs) ps := by
  refine ⟨?_, h.1⟩
  show (VC ps).map _ = _
  rw [h.vc, List.map_map]
  exact List.map_congr_left fun ⟨_, b⟩ _ => by cases b <;> rfl

theorem POpV.of_line {b : Bool} {ps : List Rec} (h : Lines isValueCheck [boolStatus b] ps) :
    POpV (.emptyQueryResult (boolStatus b)) ps :=
  ⟨.inr ⟨b, h.vc, rfl⟩, h.1⟩

theorem reportVER_good (op : CmpOp) (opNot : Bool) (msg : Option Str) (v : VER) :
    ∀ e ∈ reportVER op opNot msg v, Leaf e.1 (boolStatus e.2.2) := by
  -- one entry, or one per element of a list; a `Success` leaf goes with `true`, any other leaf with `false`
  cases v with
  | cmp c =>
    cases c with
    | success cc | fail cc =>
      cases cc
      case queryIn => exact List.forall_mem_map.mpr fun _ _ => .valueCheck _
      all_goals exact List.forall_mem_singleton.mpr (.valueCheck _)
    | _ => exact List.forall_mem_singleton.mpr (.valueCheck _)
  | _ => exact List.forall_mem_singleton.mpr (.valueCheck _)

/-- how every check is reported: `Success`, or the leaf `c` that says what failed -/
theorem inv_emitCheck {α} {P : α → List Rec → Prop} {b : Bool} {c : ClauseCheck} {x : α}
    (hc : Leaf (.clauseValueCheck c) .fail) (hP : ∀ ps, Lines isValueCheck [boolStatus b] ps → P x ps) :
    Inv (if b = true then do emit (.clauseValueCheck .success); pure x else do emit (.clauseValueCheck c); pure x : M α) P := by
  have h : ∀ k, Leaf k (boolStatus b) → Inv (do emit k; pure x : M α) P := fun k hk =>
    inv_map (g := fun _ => x) (inv_emit (P := fun _ ps => Lines isValueCheck [boolStatus b] ps) k hk.1 hk.2) fun _ => hP
  cases b
  · exact h _ hc
  · exact h _ (.valueCheck .success)

theorem clauseStatus_true_single (b : Bool) : clauseStatus true [b] = boolStatus b := by cases b <;> rfl

def resStatus (all : Bool) : EvaluationResult → Status
  | .emptyQueryResult s => s
  | .queryValueResult rs => clauseStatus all (rs.map (·.2))

theorem nodeOk_of_POpV (all : Bool) {res : EvaluationResult} {ps : List Rec} (hh : POpV res ps) :
    nodeOk (.guardClauseBlockCheck (resStatus all res)) ps = true := by
  obtain ⟨h, hv⟩ := hh
  simp only [nodeOk, show (lineRecs ps).all isValueCheck = true from hv, Bool.true_and]
  rw [← VC]
  cases res with
  | emptyQueryResult s =>
    -- no check, or one that carries the status: the `all` reading of that one check
    rcases h with h | ⟨b, h, rfl⟩
    · rw [h]; rfl
    · rw [h]; cases b <;> rfl
  | queryValueResult rs =>
    rw [show (VC ps).map (· == Status.pass) = rs.map (·.2) from h]
    split
    · rfl
    · cases all <;> simp [resStatus]

def isRuleCheck (r : Rec) : Bool := match r.kind with | .ruleCheck .. => true | _ => false

def isTypeBlock (r : Rec) : Bool := match r.kind with | .typeBlock _ => true | _ => false

/-- what a `TypeCheck` record asks of the lines of its body -/
def typeBody (s : Status) (rs : List Rec) : Bool := rs.all isTypeBlock && s == bodyStatus (rs.map Rec.status)

/-- the status of a block clause is explained by the lines evaluated for its values -/
theorem nodeOk_block (all : Bool) (chunks : List (List Status)) (ps : List Rec) (hE : Explains (lineRecs ps) chunks.flatten) :
    let s := if all then bodyStatus (chunks.map bodyStatus) else someStatus (chunks.map bodyStatus)
    nodeOk (.blockGuardCheck s) ps = true := by
  intro s
  have hlen := explains_length hE
  -- `all`: the aggregate of the chunk aggregates is the aggregate of all the lines
  have key : s = bodyStatus chunks.flatten ∨ s = .pass ∧ .pass ∈ chunks.flatten ∨ s = .fail ∧ .fail ∈ chunks.flatten ∨
      s = .skip ∧ .pass ∉ chunks.flatten := by
    cases all
    · exact .inr (someStatus_chunks chunks)
    · exact .inl (bodyStatus_flatten chunks)
  generalize chunks.flatten = F at key hE hlen
  simp only [nodeOk]
  split
  · rename_i he
    obtain rfl : F = [] := List.eq_nil_of_length_eq_zero (by rw [← hlen, List.isEmpty_iff.mp he]; rfl)
    have : s = .skip := by simpa [bodyStatus] using key
    rw [this]; rfl
  · rename_i hne
    refine List.any_eq_true.mpr ⟨_, explains_choices hE, ?_⟩
    rcases key with h | ⟨h, hm⟩ | ⟨h, hm⟩ | ⟨h, hm⟩
    · simp [h]
    · simp [h, hm]
    · simp [h, hm]
    · cases F with
      | nil => exact absurd (List.eq_nil_of_length_eq_zero hlen) (by simpa using hne)
      | cons y _ => simp [h, show y ≠ .pass from fun e => hm (e ▸ .head _)]

section
variable {env : Env} {fuel : Nat} (ih : AllInv env fuel)
include ih

theorem cf_acc (parent qi query elements conv) :
    InvF (accumulate env (fuel + 1) parent qi query elements conv) := by
  simp only [accumulate]
  exact inv_ite (invf_pure _) (invf_bind (invf_mapM (fun _ => ih.qr _ _ _ _) _) fun _ => invf_pure _)

theorem cf_cad (cnf name index query key value conv) :
    InvF (checkAndDelegate env (fuel + 1) cnf name index query key value conv) :=
  .of_triple <| triple_checkAndDelegate (invf_filter (ih.cnf cnf).aggOk).triple (fun _ => (invf_addCaptureKey _ _).triple)
    (ih.qr _ _ _ _).triple

theorem cf_qctx (q) : InvF (queryCtx env (fuel + 1) q) := by
  simp only [queryCtx]
  exact invf_bind invf_currentRoot fun _ => ih.qr _ _ _ _

theorem cf_rfun (name params) :
    InvF (resolveFunction env (fuel + 1) name params) := by
  simp only [resolveFunction]
  refine invf_bind (invf_mapM (fun p => ?_) _) fun _ => invf_bind (invf_liftO _) fun _ => invf_pure _
  split
  · exact invf_pure _
  · exact ih.qctx _
  · exact ih.rfun _ _

theorem cf_rvar (name : Str) :
    InvF (resolveVariable env (fuel + 1) name) := by
  intro st a st' h
  -- the frames are edited around the runs below; the records are not
  rcases resolveVariable_sat.of_ok h with rfl | ⟨_, _, _, _, _, hr, rfl⟩ | ⟨_, _, _, _, _, _, _, _, hm, hr, _, rfl⟩
  · exact ⟨[], rfl, rfl, rfl⟩
  · exact (ih.rvar name _ _ _ hr :)  -- `InvF` unfolds to the goal: what was pushed by the inner run is what was pushed
  · rcases hm with ⟨_, _, _, rfl⟩ | ⟨_, _, _, rfl⟩
    · exact (ih.rfun _ _ _ _ _ hr :)
    · exact (ih.qr _ _ _ _ _ _ _ hr :)

theorem cf_qr (qi : Nat) (query : List QueryPart) (current : PV)
    (conv : Option Nat) : InvF (queryRetrieval env (fuel + 1) qi query current conv) :=
  .of_triple <| triple_queryRetrieval (fun _ _ h => (invf_withValueScope (.of_triple h)).triple) (fun _ _ => (invf_addCaptureKey _ _).triple)
    (fun _ => (ih.rvar _).triple) (fun _ _ _ => (ih.qr _ _ _ _).triple) (fun _ _ => (ih.qr _ _ _ _).triple)
    (fun _ => (ih.acc _ _ _ _ _).triple)
    (fun _ cnf _ => ⟨fun _ => trivial, fun _ _ _ => (ih.cad _ _ _ _ _ _ _).triple, fun _ =>
      (invf_filter (inv_withValueScope lineOnly_PCnf (ih.cnf cnf)).aggOk).triple⟩)
    fun _ _ _ _ _ => ⟨trivial, fun _ _ _ => (ih.qr _ _ _ _).triple, fun _ _ _ => (ih.rfun _ _).triple, fun _ _ =>
      (invf_keysFilter _ _ _ _ _).triple⟩

theorem cf_alts : ∀ (l : List Clause),
    Inv (evalAlternatives env (fuel + 1) l) (fun sts ps => PAlts sts ps ∧ (l ≠ [] → sts ≠ []) ∧ sts.length ≤ l.length)
  | [] => by
    simp only [evalAlternatives]
    exact inv_pure _ ⟨⟨trivial, rfl, noCond_nil⟩, nofun, Nat.le_refl _⟩
  | c :: rest => by
    simp only [evalAlternatives]
    -- `more`: the statuses of the alternatives after `c`; none is evaluated once `c` passed
    refine inv_bind (ih.clause c) (P2 := fun s sts ps => ∃ more, sts = s :: more ∧ (s = .pass → more = []) ∧
      PAlts more ps ∧ more.length ≤ rest.length) (fun s => ?_) ?_
    · split
      · exact inv_pure _ ⟨[], rfl, fun _ => rfl, ⟨trivial, rfl, noCond_nil⟩, Nat.zero_le _⟩
      · exact inv_map (ih.alts rest) fun more _ ⟨h, _, hl⟩ => ⟨more, rfl, fun e => absurd (beq_iff_eq.mpr e) ‹_›, h, hl⟩
    · rintro s ps1 _ _ h1 ⟨more, rfl, hp, ⟨hE, hst, hnc⟩, hl⟩
      obtain ⟨hE1, hnc1⟩ := PClause.explains h1
      exact ⟨⟨by rw [lineRecs_append]; exact explains_append hE1 hE, stops_cons hp hst, forall_lineRecs_append hnc1 hnc⟩, nofun,
        Nat.succ_le_succ hl⟩

theorem cf_line (l : List Clause) :
    Inv (evalLine env (fuel + 1) l) (fun s ps => (∃ sts, Explains (lineRecs ps) sts ∧ stopsAtFirstPass sts = true ∧
      s = lineStatus sts ∧ sts.length ≤ l.length ∧ (l ≠ [] → sts ≠ [])) ∧ NoCond ps) := by
  simp only [evalLine]
  exact inv_map (ih.alts l) fun sts _ ⟨⟨hE, hst, hnc⟩, hne, hlen⟩ => ⟨⟨sts, hE, hst, rfl, hlen, hne⟩, hnc⟩

theorem cf_perLine (line : List Clause) :
    Inv (if line.length > 1 then withRec RecKind.disjunction (evalLine env fuel line) else evalLine env fuel line) PCnf := by
  -- this is where the bounds on `sts` in the post-condition of `evalLine` are used: a `Disjunction` record is not
  -- empty, and without one there is at most one status, for which `lineStatus` and `bodyStatus` agree
  split
  · rename_i hlen
    refine inv_weaken (inv_withRec_clause (fun _ => ⟨rfl, rfl⟩) (inv_weaken (ih.line line) ?_)) fun _ _ => PClause.toCnf
    rintro s ps ⟨⟨sts, hE, hst, hs, _, hne⟩, _⟩
    refine ⟨?_, rfl⟩
    simp only [nodeOk, Bool.and_eq_true, Bool.not_eq_true', List.any_eq_true, List.isEmpty_eq_false_iff]
    exact ⟨explains_nonempty hE (hne (by rintro rfl; simp at hlen)), sts, explains_choices hE, by rw [hs, hst]; simp⟩
  · rename_i hlen
    exact inv_weaken (ih.line line) fun s ps ⟨⟨sts, hE, _, hs, hlen', _⟩, hnc⟩ =>
      ⟨⟨sts, hE, hs.trans (lineStatus_eq_body (by omega))⟩, hnc⟩

theorem cf_cnf (c : Cnf) : Inv (evalCnf env (fuel + 1) c) PCnf := by
  simp only [evalCnf]
  exact inv_map (inv_mapM_cnf (cf_perLine ih) c) fun _ _ ⟨⟨chunks, hE, e⟩, hn⟩ =>
    ⟨⟨_, hE, e ▸ bodyStatus_flatten chunks⟩, hn⟩

theorem cf_block (lets : List LetExpr) (c : Cnf) :
    Inv (evalGeneralBlock env (fuel + 1) lets c) PCnf := by
  simp only [evalGeneralBlock]
  exact inv_bindF lineOnly_PCnf invf_currentRoot fun _ => inv_bindF lineOnly_PCnf (invf_pushFrame _) fun _ =>
    inv_thenF lineOnly_PCnf (ih.cnf c) fun _ => invf_popFrame

theorem cf_rule (r : Rule) :
    Inv (evalRule env (fuel + 1) r) (fun s ps => ∃ ch, ps = [Rec.node (.ruleCheck r.name s none) ch]) := by
  simp only [evalRule]
  refine inv_withRec1 ?_
  split
  · exact inv_cond_body (B := aggOk bodyStatus) (fun _ _ _ _ => rfl) (ih.cnf _).aggOk
      (ih.block _ _).aggOk
  · exact inv_weaken (ih.block r.lets r.cnf) fun s ps h => nodeOk_rule_nocond h

theorem cf_fns : ∀ (rules : List Rule),
    Inv (firstNonSkip env (fuel + 1) rules) (fun _ ps => AllRule ps)
  | [] => by simp only [firstNonSkip]; exact inv_pure _ allRule_nil
  | r :: rest => by
    simp only [firstNonSkip]
    exact inv_bind (ih.rule r) (fun s => inv_ite (inv_pure (P := fun _ ps => AllRule ps) _ allRule_nil) (ih.fns rest))
      fun _ _ _ _ ⟨_, h1⟩ h2 => forall_lineRecs_append (h1 ▸ allRule_single _ _ _ _) h2

theorem cf_rstat (name : Str) :
    Inv (ruleStatus env (fuel + 1) name) (fun _ ps => AllRule ps) := by
  intro st a st' h
  -- a memo hit, or the rules of that name are run between two edits of the frames and the memo table
  rcases ruleStatus_sat.of_ok h with rfl | ⟨_, hr, rfl⟩
  · exact ⟨[], rfl, rfl, allRule_nil⟩
  · exact (ih.fns _ _ _ _ hr :)

theorem cf_pcall (rule : Str) (neg : Bool) (msg : Option Str)
    (params : List LetValue) : Inv (evalParamCall env (fuel + 1) rule neg msg params) PClause := by
  simp only [evalParamCall]
  refine inv_bindF lineOnly_PClause (.of_triple (triple_findParamRule _)) fun pr => inv_ite (inv_throwErr _) ?_
  refine inv_bindF lineOnly_PClause (invf_mapM (fun p => ?_) _) fun vals => inv_bindF lineOnly_PClause (invf_pushFrame _) fun _ =>
    inv_weaken (inv_retag (ih.rule pr.rule)) ?_
  · split
    · exact invf_pure _
    · exact ih.qctx _
    · exact ih.rfun _ _
  · rintro _ _ ⟨s, m', ch, rfl, rfl⟩
    exact ⟨_, rfl, by cases neg <;> cases s <;> simp [lineOptions, Rec.kind], rfl⟩

theorem cf_binary (q : List QueryPart) (rhs : List QR) (op : CmpOp)
    (opNot : Bool) (msg : Option Str) : Inv (binaryOperation env (fuel + 1) q rhs op opNot msg) POpV := by
  simp only [binaryOperation]
  refine inv_bindF lineOnly_POpV (ih.qctx q) fun lhs => inv_bindF lineOnly_POpV (invf_liftO _) fun results => ?_
  split
  · exact inv_pure _ ⟨Or.inl rfl, rfl⟩
  · refine inv_map (inv_forIn_emit boolStatus _ ?_) fun _ _ h => .of_lines (by rw [List.map_map]; exact h)
    exact List.forall_mem_flatten.mpr (List.forall_mem_map.mpr fun v _ => reportVER_good op opNot msg v)

theorem cf_unary (q : List QueryPart) (op : CmpOp) (opNot inverse : Bool)
    (msg : Option Str) : Inv (unaryOperation env (fuel + 1) q op opNot inverse msg) POpV := by
  unfold unaryOperation
  refine inv_bindF lineOnly_POpV (ih.qctx q) fun lhs => ?_
  -- `k`: the rest of the function after the `match` on the last query part
  extract_lets -underBinder k
  have hk : ∀ e, Inv (k e) POpV := fun _ => by
    refine inv_ite (inv_ite ?_ ?_) (inv_ite (inv_pure _ ⟨Or.inl rfl, rfl⟩) ?_)
    · -- `empty` on a filter or a variable
      refine inv_map (inv_mapM_lines (fun each => ?_) lhs) fun _ _ => .of_lines
      exact inv_emitCheck (.valueCheck _) fun _ h => h
    · exact inv_emitCheck (.valueCheck _) fun _ => .of_line
    · refine inv_map (inv_mapM_lines (fun each => ?_) lhs) fun _ _ => .of_lines
      exact inv_bindF (lineOnly_lines _) (invf_liftO _) fun b => inv_emitCheck (.valueCheck _) fun _ h => h
  split
  · exact inv_fail fun _ _ _ => nofun
  all_goals exact inv_bindF lineOnly_POpV (invf_pure _) hk

theorem cf_clause_access (neg : Bool) (q : List QueryPart) (all : Bool)
    (op : CmpOp) (opNot : Bool) (withV : Option LetValue) (msg : Option Str) :
    Inv (evalClause env (fuel + 1) (.access neg q all op opNot withV msg)) PClause := by
  simp -zeta only [evalClause]
  refine inv_withRec_clause (fun _ => ⟨rfl, rfl⟩) ?_
  -- `fin`: from the operation's result to the status; `bin`: the binary operation on a right-hand side, then `fin`
  extract_lets -underBinder fin bin
  have hfin : ∀ {m : M EvaluationResult}, Inv m POpV → Inv (m >>= fin)
      fun s ps => nodeOk (.guardClauseBlockCheck s) ps = true ∧ lineOptions (Rec.node (.guardClauseBlockCheck s) ps) = [s] :=
    fun hm => by
      rw [show fin = fun res => pure (resStatus all res) from funext fun res => by cases res <;> rfl]
      exact inv_map hm fun _ _ h => ⟨nodeOk_of_POpV all h, rfl⟩
  have hbin : ∀ {X : M (List QR)}, InvF X → Inv (X >>= bin) _ := fun hX => by
    rw [← bind_assoc]; exact hfin (inv_bindF lineOnly_POpV hX fun _ => ih.binary _ _ _ _ _)
  refine inv_ite (hfin (ih.unary _ _ _ _ _)) ?_
  split
  · exact hbin (invf_pure _)
  · exact hbin (ih.qctx _)
  · exact hbin (ih.rfun _ _)
  · exact hbin (inv_throwErr _)

theorem cf_clause_named (rule : Str) (neg : Bool) (msg : Option Str) :
    Inv (evalClause env (fuel + 1) (.named rule neg msg)) PClause := by
  simp only [evalClause]
  refine inv_withRec_clause (fun _ => ⟨rfl, rfl⟩) (inv_map (ih.rstat rule) fun s ps hall => ?_)
  -- whatever the status and the `not`: `Success` or `DependentRule`, and both ask for `RuleCheck` lines only
  have hr : (lineRecs ps).all isRuleCheck = true := List.all_eq_true.mpr fun r hr => by
    obtain ⟨_, _, _, _, rfl⟩ := hall r hr; rfl
  cases s <;> cases neg <;> exact ⟨hr, rfl⟩

theorem cf_clause_when (conds : Cnf) (lets : List LetExpr) (cnf : Cnf) :
    Inv (evalClause env (fuel + 1) (.whenBlock conds lets cnf)) PClause := by
  simp only [evalClause]
  refine inv_withRec_clause (fun _ => ⟨rfl, rfl⟩) (inv_weaken ?_ fun _ _ h => ⟨h, rfl⟩)
  exact inv_cond_body (B := aggOk bodyStatus) (fun _ _ _ _ => rfl) (ih.cnf _).aggOk
    (ih.block _ _).aggOk

theorem cf_clause_type (name : Str) (conds : Option Cnf)
    (lets : List LetExpr) (cnf : Cnf) (q : List QueryPart) :
    Inv (evalClause env (fuel + 1) (.typeBlock name conds lets cnf q)) PClause := by
  simp -zeta only [evalClause]
  -- `go`: the body without the condition, one `TypeBlock` record per value
  extract_lets go
  have hgo : Inv go fun s ps => typeBody s (lineRecs ps) = true := by
    have hb : ∀ rv, Inv (withRec RecKind.typeBlock (withValueScope rv (evalGeneralBlock env fuel lets cnf)))
        fun s ps => Lines isTypeBlock [s] ps := fun rv =>
      inv_withRec (inv_withValueScope lineOnly_PCnf (ih.block lets cnf)).aggOk fun _ _ h => ⟨h, rfl, rfl⟩
    refine inv_bindF (fun _ _ _ h => by simp only [h, imp_self]) (ih.qctx q) fun values => inv_ite (inv_pure _ rfl) ?_
    refine inv_map (inv_mapM_lines (K := isTypeBlock) (g := id) (fun each => ?_) values) fun sts _ h => (List.map_id sts ▸ h).body
    split
    · exact hb _
    · exact hb _
    · exact inv_throwErr _
  refine inv_withRec_clause (fun _ => ⟨rfl, rfl⟩) (inv_weaken ?_ fun _ _ h => ⟨h, rfl⟩)
  split
  · exact inv_cond_body (B := typeBody) (fun _ _ _ _ => rfl) (ih.cnf _).aggOk hgo
  · refine inv_weaken hgo fun s ps h => ?_
    -- no condition: the first line, if any, is a `TypeBlock`, so the body is all there is
    simp only [nodeOk]
    split
    · rename_i hl; rw [hl] at h; simp [typeBody, isTypeBlock, Rec.kind] at h
    · exact h

theorem cf_clause_block (q : List QueryPart) (all notEmpty : Bool)
    (lets : List LetExpr) (cnf : Cnf) :
    Inv (evalClause env (fuel + 1) (.block q all notEmpty lets cnf)) PClause := by
  simp only [evalClause]
  refine inv_withRec_clause (fun _ => ⟨rfl, rfl⟩) (inv_weaken ?_ fun _ _ h => ⟨h, rfl⟩)
  refine inv_bindF (fun _ _ _ h => by simp only [nodeOk, h, imp_self]) (ih.qctx q) fun values => inv_ite (inv_pure _ ?_) ?_
  · cases notEmpty <;> rfl
  refine inv_map (inv_mapM_cnf (fun each => ?_) values) fun _ ps ⟨⟨chunks, hE, e⟩, _⟩ => e ▸ nodeOk_block all chunks ps hE
  split
  · exact inv_map (g := fun _ => Status.fail) (inv_emit _ (nodeOk_valueCheck _) (PClause.toCnf ⟨_, rfl, .head _, rfl⟩)) fun _ _ h => h
  · exact inv_withValueScope lineOnly_PCnf (ih.block lets cnf)
  · exact inv_withValueScope lineOnly_PCnf (ih.block lets cnf)

theorem cf_clause (c : Clause) : Inv (evalClause env (fuel + 1) c) PClause := by
  cases c with
  | access => exact cf_clause_access ih _ _ _ _ _ _ _
  | named => exact cf_clause_named ih _ _ _
  | call => simp only [evalClause]; exact ih.pcall _ _ _ _
  | block => exact cf_clause_block ih _ _ _ _ _
  | whenBlock => exact cf_clause_when ih _ _ _
  | typeBlock => exact cf_clause_type ih _ _ _ _ _

end

theorem allInv_zero (env : Env) : AllInv env 0 where
  qr _ _ _ _ := inv_outOfFuel
  acc _ _ _ _ _ := inv_outOfFuel
  cad _ _ _ _ _ _ _ := inv_outOfFuel
  qctx _ := inv_outOfFuel
  rvar _ := inv_outOfFuel
  rfun _ _ := inv_outOfFuel
  cnf _ := inv_outOfFuel
  line _ := inv_outOfFuel
  alts
    | [] => inv_pure _ ⟨⟨trivial, rfl, noCond_nil⟩, nofun, Nat.le_refl _⟩
    | _ :: _ => inv_outOfFuel
  clause _ := inv_outOfFuel
  block _ _ := inv_outOfFuel
  unary _ _ _ _ _ := inv_outOfFuel
  binary _ _ _ _ _ := inv_outOfFuel
  pcall _ _ _ _ := inv_outOfFuel
  rstat _ := inv_outOfFuel
  fns
    | [] => inv_pure _ allRule_nil
    | _ :: _ => inv_outOfFuel
  rule _ := inv_outOfFuel

theorem allInv_succ (env : Env) (fuel : Nat) (ih : AllInv env fuel) : AllInv env (fuel + 1) where
  qr := cf_qr ih
  acc := cf_acc ih
  cad := cf_cad ih
  qctx := cf_qctx ih
  rvar := cf_rvar ih
  rfun := cf_rfun ih
  cnf := cf_cnf ih
  line := cf_line ih
  alts := cf_alts ih
  clause := cf_clause ih
  block := cf_block ih
  unary := cf_unary ih
  binary := cf_binary ih
  pcall := cf_pcall ih
  rstat := cf_rstat ih
  fns := cf_fns ih
  rule := cf_rule ih

/-- **every function of the evaluator pushes only consistent record trees**, for every fuel, program, document,
    environment and state -/
theorem allInv (env : Env) : ∀ fuel, AllInv env fuel
  | 0 => allInv_zero env
  | fuel + 1 => allInv_succ env fuel (allInv env fuel)

/-- the whole file: one `FileCheck` root over one `RuleCheck` per rule, in file order; the status returned, which the
    root carries, is the aggregate of the statuses `sts` in those records -/
theorem cf_file_top (env : Env) (fuel : Nat) (file : RulesFile) :
    Inv (evalRulesFile env fuel file) fun s ps => ∃ sts ch, ps = [Rec.node (.fileCheck s) ch] ∧
      sts.length = file.rules.length ∧ s = bodyStatus sts ∧
      ch.map Rec.kind = (file.rules.zip sts).map fun p => RecKind.ruleCheck p.1.name p.2 none := by
  unfold evalRulesFile
  let Q (l : List Rule) (sts : List Status) (ps : List Rec) : Prop := Lines isRuleCheck sts ps ∧ sts.length = l.length ∧
    ps.map Rec.kind = (l.zip sts).map fun p => RecKind.ruleCheck p.1.name p.2 none
  have hm : ∀ l, Inv (l.mapM (evalRule env fuel)) (Q l) := inv_mapM (allInv env fuel).rule ⟨⟨rfl, rfl⟩, rfl, rfl⟩ <| by
    rintro r l s sts _ ps2 ⟨ch, rfl⟩ ⟨h1, hl, h3⟩
    exact ⟨lines_append (s1 := [s]) ⟨rfl, rfl⟩ h1, congrArg (· + 1) hl, congrArg (_ :: ·) h3⟩
  refine inv_withRec (inv_map (P := fun s ps => ∃ sts, s = bodyStatus sts ∧ Q file.rules sts ps) (hm _)
    fun sts _ h => ⟨sts, rfl, h⟩) ?_
  rintro _ ps ⟨sts, rfl, h, hl, h3⟩
  exact ⟨h.body, sts, ps, rfl, hl, rfl, h3⟩

theorem runFile_top (env : Env) (fuel : Nat) (file : RulesFile) (doc : PV) (s : Status) (t : Rec)
    (h : runFile env fuel file doc = .ok (s, t)) :
    t.kind = .fileCheck s ∧
    ∃ sts : List Status, sts.length = file.rules.length ∧ s = bodyStatus sts ∧
      t.children.map Rec.kind = (file.rules.zip sts).map fun p => RecKind.ruleCheck p.1.name p.2 none := by
  obtain ⟨st, hev, ht⟩ := runFile_ok h
  obtain ⟨_, e, _, sts, ch, rfl, hl, hs, hk⟩ := cf_file_top env fuel file _ _ _ hev
  cases ht.symm.trans e
  exact ⟨rfl, sts, hl, hs, hk⟩

end Guard
