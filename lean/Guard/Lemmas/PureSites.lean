import Guard.Lemmas.Outcome
import Guard.Lemmas.Order
import Guard.Model.Eval
import Guard.Model.WF
/-
  Guard.Lemmas.PureSites — which panics the pure layers can raise: the comparison layer (Compare / Ops) none at all,
  the value checks of Eval (`unaryCheck`, `realBinaryOne`) none when the operator has the arity they are called with,
  the built-in functions only those of `FnSite`.  Everything is said with `Outcome.Sat` (Guard.Lemmas.Outcome).
-/
namespace Guard

/-- `PV` is a nested inductive type, so `induction` does not apply to it.  A fact holds of every value if it holds of a
    value whenever it holds of that value's members (the elements of a list, the values of a map). -/
theorem PV.ind {motive : PV → Prop}
    (step : ∀ v, (∀ p xs, v = .list p xs → ∀ x ∈ xs, motive x) → (∀ p ks vs, v = .map p ks vs → ∀ x ∈ vs, motive x) → motive v) :
    ∀ v, motive v := by
  have scalar : ∀ v, v.isList = false → v.isMap = false → motive v := fun v hl hm =>
    step v (fun _ _ e => by subst e; cases hl) (fun _ _ _ e => by subst e; cases hm)
  apply @PV.rec motive fun l => ∀ x ∈ l, motive x
  case list => exact fun p xs ih => step _ (fun _ _ e => by cases e; exact ih) nofun
  case map => exact fun p ks vs ih => step _ nofun (fun _ _ _ e => by cases e; exact ih)
  case nil => exact nofun
  case cons => exact fun x xs hx hxs => List.forall_mem_cons.mpr ⟨hx, hxs⟩
  all_goals intros; exact scalar _ rfl rfl

/- The list and map loops of `looseEq` and `compareEq` take what is known of the members as a hypothesis. -/
theorem looseEqList_ne_none (env : Env) : ∀ (xs ys : List PV), (∀ x ∈ xs, ∀ y, looseEq env x y ≠ none) → looseEqList env xs ys ≠ none
  | x :: xs, y :: ys, h => by
    unfold looseEqList; split
    · exact looseEqList_ne_none env xs ys fun x hx => h x (List.mem_cons_of_mem _ hx)
    · exact h x (List.mem_cons_self ..) y
  | [], _, _ => by unfold looseEqList; nofun
  | _ :: _, [], _ => by unfold looseEqList; nofun

theorem looseEqMap_ne_none (env : Env) (ks2 : List (Path × Str)) (vs2 : List PV) : ∀ (ks : List (Path × Str)) (vs : List PV),
    (∀ x ∈ vs, ∀ y, looseEq env x y ≠ none) → looseEqMap env ks vs ks2 vs2 ≠ none
  | (_, k) :: ks, v :: vs, h => by
    unfold looseEqMap; split
    · split
      · exact looseEqMap_ne_none env ks2 vs2 ks vs fun x hx => h x (List.mem_cons_of_mem _ hx)
      · exact h v (List.mem_cons_self ..) _
    · nofun
  | [], _, _ => by unfold looseEqMap; nofun
  | _ :: _, [], _ => by unfold looseEqMap; nofun

/-- `PartialEq` cannot panic: since 6b03de4 it is `is_match(..).unwrap_or(false)` -/
theorem looseEq_ne_none (env : Env) (a : PV) : ∀ b, looseEq env a b ≠ none := by
  induction a using PV.ind with | _ a hlist hmap =>
  intro b
  unfold looseEq; split
  · split
    · exact looseEqMap_ne_none env _ _ _ _ (hmap _ _ _ rfl)
    · nofun
  · split
    · exact looseEqList_ne_none env _ _ (hlist _ _ rfl)
    · nofun
  all_goals first | exact Option.some_ne_none _ | (split <;> exact Option.some_ne_none _)

theorem looseContains_np (env : Env) : ∀ (ys : List PV) (x : PV), (liftOpt (looseContains env ys x)).NP
  | [], x => trivial
  | y :: ys, x => by
    have := looseEq_ne_none env y x
    unfold looseContains
    split
    · trivial
    · exact looseContains_np env ys x
    · contradiction

theorem notContainedIn_np (env : Env) (ys : List PV) : ∀ xs, (notContainedIn env ys xs).NP
  | [] => trivial
  | x :: xs => by
    unfold notContainedIn
    sat_bind (looseContains_np env ys x); sat_bind (notContainedIn_np env ys xs)

theorem compareValues_np (a b : PV) : (compareValues a b).NP := by
  rcases compareValues_ok_or_nc a b with ⟨o, h⟩ | h <;> rw [h] <;> trivial

theorem regexEq_np (env : Env) (r s : Str) : (regexEq env r s).NP := by
  unfold regexEq; split <;> trivial

theorem cmpWith_np (f : Ordering → Bool) (a b : PV) : (cmpWith f a b).NP := by
  unfold cmpWith; sat_bind (compareValues_np a b)

theorem compareEqList_np (env : Env) : ∀ (xs ys : List PV), (∀ x ∈ xs, ∀ y, (compareEq env x y).NP) → (compareEqList env xs ys).NP
  | x :: xs, y :: ys, h => by
    unfold compareEqList; split
    · exact compareEqList_np env xs ys fun x hx => h x (List.mem_cons_of_mem _ hx)
    · exact h x (List.mem_cons_self ..) y
  | [], _, _ => by unfold compareEqList; trivial
  | _ :: _, [], _ => by unfold compareEqList; trivial

theorem compareEqMap_np (env : Env) (ks2 : List (Path × Str)) (vs2 : List PV) : ∀ (ks : List (Path × Str)) (vs : List PV),
    (∀ x ∈ vs, ∀ y, (compareEq env x y).NP) → (compareEqMap env ks vs ks2 vs2).NP
  | (_, k) :: ks, v :: vs, h => by
    unfold compareEqMap; split
    · split
      · exact compareEqMap_np env ks2 vs2 ks vs fun x hx => h x (List.mem_cons_of_mem _ hx)
      · exact h v (List.mem_cons_self ..) _
    · trivial
  | [], _, _ => by unfold compareEqMap; trivial
  | _ :: _, [], _ => by unfold compareEqMap; trivial

theorem compareEq_np (env : Env) (a : PV) : ∀ b, (compareEq env a b).NP := by
  induction a using PV.ind with | _ a hlist hmap =>
  intro b
  unfold compareEq; split
  · exact regexEq_np env _ _
  · exact regexEq_np env _ _
  · trivial
  · exact .ite (compareEqMap_np env _ _ _ _ (hmap _ _ _ rfl)) trivial
  · exact .ite (compareEqList_np env _ _ (hlist _ _ rfl)) trivial
  all_goals first | trivial | sat_bind (compareValues_np a b)

/-- a `ListIn` result always carries a LIST as its left-hand side (what the negation arm `unreachable!()`s on) -/
def VER.ListOk : VER → Prop
  | .cmp (.success (.listIn _ l _)) => l.isList = true
  | .cmp (.fail (.listIn _ l _)) => l.isList = true
  | _ => True

def ListOks (rs : List VER) : Prop := ∀ v ∈ rs, v.ListOk

def EvalResult.ListOk : EvalResult → Prop
  | .skip => True
  | .result rs => ListOks rs

theorem listOk_lhsU (u : UnResolved) : (VER.lhsUnresolved u).ListOk := trivial
theorem listOk_rhsU (u : UnResolved) (l : PV) : (VER.cmp (.rhsUnresolved u l)).ListOk := trivial

namespace ListOks
theorem append {a b : List VER} (ha : ListOks a) (hb : ListOks b) : ListOks (a ++ b) :=
  fun v hv => (List.mem_append.mp hv).elim (ha v) (hb v)
theorem single {v : VER} (h : v.ListOk) : ListOks [v] := fun _ hw => List.mem_singleton.mp hw ▸ h
theorem flatten {l : List (List VER)} (h : ∀ row ∈ l, ListOks row) : ListOks l.flatten :=
  fun v hv => let ⟨row, hr, hvr⟩ := List.mem_flatten.mp hv; h row hr v hvr
theorem map {α} {f : α → VER} (hf : ∀ a, (f a).ListOk) (l : List α) : ListOks (l.map f) :=
  fun _ hv => let ⟨a, _, e⟩ := List.mem_map.mp hv; e ▸ hf a
theorem unresolvedPart (lhs rhs : List QR) (ls : List PV) : ListOks ((unresolvedOf lhs).map VER.lhsUnresolved ++
    (unresolvedOf rhs).flatMap fun ur => ls.map fun l => VER.cmp (.rhsUnresolved ur l)) :=
  .append (.map listOk_lhsU _) fun v hv =>
    let ⟨u, _, hu⟩ := List.mem_flatMap.mp hv; ListOks.map (listOk_rhsU u) _ v hu
end ListOks

theorem matchValue_listOk {cmp : PV → PV → Outcome Bool} {l r : PV} (hc : (cmp l r).NP) : (matchValue cmp l r).Safe VER.ListOk := by
  unfold matchValue; split <;> first | trivial | exact hc.of_panic ‹_›

theorem containedIn_listOk (env : Env) (l r : PV) : (containedIn env l r).Safe VER.ListOk := by
  unfold containedIn
  split
  · split
    · refine .ite ?_ ?_
      · sat_bind (looseContains_np env _ _) <;> rfl
      · sat_bind (notContainedIn_np env _ _); split <;> rfl
    · trivial
  · split
    · sat_bind (looseContains_np env _ _)
    · exact matchValue_listOk (compareEq_np env _ _)

theorem stringIn_listOk (l r : PV) : (stringIn l r).ListOk := by
  unfold stringIn; split
  · split <;> trivial
  · trivial

/-- the rows of one side against the other, after the unresolved part `pre` -/
theorem rows_listOk {f : PV → Outcome (List VER)} (hf : ∀ x, (f x).Safe ListOks) {pre : List VER} (hpre : ListOks pre) (xs : List PV) :
    (match mapMOutcome f xs with
      | .ok vss => .ok (.result (pre ++ vss.flatten))
      | .err e => .err e | .panic s => .panic s | .outOfFuel => .outOfFuel : Outcome EvalResult).Safe EvalResult.ListOk := by
  have h := mapMOutcome_sat xs fun x _ => hf x
  sat_bind h
  exact hpre.append (.flatten (h.of_ok ‹_›))

theorem commonCompare_listOk {cmp : PV → PV → Outcome Bool} (hc : ∀ a b, (cmp a b).NP) (lhs rhs : List QR) :
    (commonCompare cmp lhs rhs).Safe EvalResult.ListOk :=
  rows_listOk (fun l => mapMOutcome_sat _ fun r _ => matchValue_listOk (hc l r)) (.unresolvedPart lhs rhs _) _

theorem anySucc_np (env : Env) (l : PV) : ∀ rs, (inDiff.anySucc env l rs).NP
  | [] => trivial
  | r :: rs => by
    have := anySucc_np env l rs
    unfold inDiff.anySucc; sat_bind (containedIn_listOk env l r)

theorem inDiff_np (env : Env) (rhsSel : List PV) : ∀ ls, (inDiff env rhsSel ls).NP
  | [] => trivial
  | l :: ls => by
    unfold inDiff
    sat_bind (anySucc_np env l rhsSel); sat_bind (inDiff_np env rhsSel ls)

theorem inEachLit_listOk (env : Env) (r l : PV) : (inEachLit env r l).Safe ListOks := by
  have h := containedIn_listOk env l r
  unfold inEachLit; split
  · split
    · exact .map (fun _ => stringIn_listOk _ _) _
    · exact .single (stringIn_listOk _ _)
  · sat_bind h; exact .single (h.of_ok ‹_›)

theorem inCompare_listOk (env : Env) (lhs rhs : List QR) : (inCompare env lhs rhs).Safe EvalResult.ListOk := by
  unfold inCompare; dsimp only; split
  next l r _ _ =>
    have h := containedIn_listOk env l r
    split
    · exact .single (‹stringIn l r = _› ▸ stringIn_listOk l r)
    · sat_bind h; exact .single (h.of_ok ‹_›)
  next l _ _ =>
    have hmm := mapMOutcome_sat (selectedVals rhs) fun r _ => containedIn_listOk env l r
    have hpre : ListOks ((unresolvedOf rhs).map fun ur => VER.cmp (.rhsUnresolved ur l)) := .map (listOk_rhsU · l) _
    refine .ite ?_ ?_
    · sat_bind hmm; exact hpre.append (hmm.of_ok ‹_›)
    · split
      · sat_bind (notContainedIn_np env _ _)
        split <;> exact hpre.append (.single trivial)
      · sat_bind hmm; exact hpre.append (hmm.of_ok ‹_›)
  · exact rows_listOk (inEachLit_listOk env _) (.map listOk_lhsU _) _
  · sat_bind (inDiff_np env _ _)
    split <;> exact (ListOks.unresolvedPart lhs rhs _).append (.single trivial)

theorem mvRow_listOk (env : Env) (l r : PV) : (mvRow env l r).Safe ListOks := by
  have h := matchValue_listOk (compareEq_np env l r)
  unfold mvRow; sat_bind h
  exact .single (h.of_ok ‹_›)

theorem eqEachRhs_listOk (env : Env) (l r : PV) : (eqEachRhs env l r).Safe ListOks := by
  unfold eqEachRhs; split
  · exact mvRow_listOk env _ _
  · split
    · exact mapMOutcome_sat _ fun e _ => matchValue_listOk (compareEq_np env _ e)
    · exact mvRow_listOk env _ _

theorem eqEachLhs_listOk (env : Env) (r l : PV) : (eqEachLhs env r l).Safe ListOks := by
  unfold eqEachLhs; split
  · refine .ite ?_ (mvRow_listOk env _ _)
    split
    · exact mvRow_listOk env _ _
    · exact nofun
  · split
    · exact mapMOutcome_sat _ fun e _ => matchValue_listOk (compareEq_np env e _)
    · exact mvRow_listOk env _ _

theorem eqCompare_listOk (env : Env) (lhs rhs : List QR) : (eqCompare env lhs rhs).Safe EvalResult.ListOk := by
  unfold eqCompare; dsimp only; split
  next l r _ _ =>
    have h := matchValue_listOk (compareEq_np env l r)
    sat_bind h; exact .single (h.of_ok ‹_›)
  · exact rows_listOk (eqEachRhs_listOk env _) (.map (listOk_rhsU · _) _) _
  · exact rows_listOk (eqEachLhs_listOk env _) (.map listOk_lhsU _) _
  · sat_bind (Outcome.Sat.ite (notContainedIn_np env _ _) (notContainedIn_np env _ _))
    split <;> exact (ListOks.unresolvedPart lhs rhs _).append (.single trivial)

theorem opCompare_listOk (env : Env) (op : CmpOp) (lhs rhs : List QR) : (opCompare env op lhs rhs).Safe EvalResult.ListOk := by
  unfold opCompare
  refine .ite trivial ?_
  split
  · exact eqCompare_listOk env lhs rhs
  · exact inCompare_listOk env lhs rhs
  · exact commonCompare_listOk (cmpWith_np _) lhs rhs
  · exact commonCompare_listOk (cmpWith_np _) lhs rhs
  · exact commonCompare_listOk (cmpWith_np _) lhs rhs
  · exact commonCompare_listOk (cmpWith_np _) lhs rhs
  · trivial

theorem PV.eq_list_of_isList {v : PV} (h : v.isList = true) : ∃ p xs, v = .list p xs := by
  unfold PV.isList at h; split at h
  · exact ⟨_, _, rfl⟩
  · cases h

/-- the negation arm: on a result whose `ListIn` carries a list, neither `unreachable!()` fires -/
theorem flipVER_np (env : Env) (op : CmpOp) (n m : Nat) {v : VER} (hv : v.ListOk) : (flipVER env op n m v).NP := by
  unfold flipVER
  split
  · split
    · unfold reverseDiff
      sat_bind (Outcome.Sat.ite (notContainedIn_np env _ _) (notContainedIn_np env _ _))
      split <;> trivial
    · split
      · sat_bind (notContainedIn_np env _ _); split <;> trivial
      · next hnl => obtain ⟨_, _, e⟩ := PV.eq_list_of_isList hv; exact (hnl _ _ e).elim
    · trivial
  · split
    · trivial
    · split
      · trivial
      · next hnl => obtain ⟨_, _, e⟩ := PV.eq_list_of_isList hv; exact (hnl _ _ e).elim
    · trivial
  · trivial

/-- **the comparison layer never panics**: `(CmpOperator, bool)::compare` on any two result sets, for every
    operator, polarity and environment, returns a result or an error — `PartialEq`'s regex `unwrap` (fix 6b03de4)
    and the two `unreachable!()` arms of the `ListIn` negation (operators.rs) are dead code. -/
theorem cmpCompare_np (env : Env) (op : CmpOp) (opNot : Bool) (lhs rhs : List QR) : (cmpCompare env op opNot lhs rhs).NP := by
  have h := opCompare_listOk env op lhs rhs
  unfold cmpCompare; sat_bind h
  next rs e =>
  -- every result of `opCompare` is `ListOk`, so no element's flip panics
  have hm := mapMOutcome_sat rs fun v hv => flipVER_np env op lhs.length rhs.length (h.of_ok e v hv)
  split
  · sat_bind hm
  · trivial

theorem notCompare_np {cmp : PV → PV → Outcome Bool} (hc : ∀ a b, (cmp a b).NP) (inv : Bool) (l r : PV) :
    (notCompare cmp inv l r).NP := by
  unfold notCompare; sat_bind (hc l r)

theorem inCmp_np (env : Env) (notIn : Bool) (l r : PV) : (inCmp env notIn l r).NP := by
  unfold inCmp; split
  · trivial
  · sat_bind (mapMOutcome_np (fun e => compareEq_np env l e) _)
  · sat_bind (compareEq_np env l r)

theorem cmpOne_np {cmp : PV → PV → Outcome Bool} (hc : ∀ a b, (cmp a b).NP) (l r : PV) : (cmpOne cmp l r).NP := by
  unfold cmpOne; sat_bind (hc l r)

theorem eachLhsCompare_np {cmp : PV → PV → Outcome Bool} (hc : ∀ a b, (cmp a b).NP) (lhs : PV) :
    ∀ qs, (eachLhsCompare cmp lhs qs).NP
  | [] => trivial
  | q :: rest => by
    unfold eachLhsCompare
    extract_lets here
    have hh : here.NP := by
      simp only [here]; split
      · trivial
      all_goals
        -- `sat_bind` leaves the arm in which `cmp` found the two not comparable
        sat_bind (hc lhs _); split
        · exact mapMOutcome_np (fun e => cmpOne_np hc e _) _
        · split
          · sat_bind (cmpOne_np hc lhs _)
          · trivial
    clear_value here
    sat_bind hh; sat_bind (eachLhsCompare_np hc lhs rest)

/-- with a binary operator `real_binary_operation`'s dispatch never reaches its `_ => unreachable!()` -/
theorem realBinaryOne_np (env : Env) (op : CmpOp) (hop : op.isUnary = false) (opNot : Bool) (msg : Option Str) (rhs : List QR) :
    ∀ each, (realBinaryOne env op opNot msg rhs each).NP := by
  have lit : ∀ l, (realBinaryOne env op opNot msg rhs (.literal l)).NP := fun l => by
    unfold realBinaryOne; dsimp -zeta only
    extract_lets cmpF
    have hF : cmpF.Safe fun f => ∀ a b, (f a b).NP := by
      simp only [cmpF]
      -- `cases hop` closes the goals of the unary operators
      cases op <;> cases hop <;> first | exact notCompare_np (cmpWith_np _) _ | exact notCompare_np (compareEq_np env) _ |
        exact inCmp_np env opNot
    clear_value cmpF
    sat_bind hF; sat_bind (eachLhsCompare_np hF _ rhs)
    exact .ite (.ite trivial (.ite trivial trivial)) trivial
  -- a `.resolved` value takes the same arm of the code as a `.literal` one
  exact fun | .unresolved _ => trivial | .literal l => lit l | .resolved l => lit l

theorem elementEmpty_np (v : QR) : (elementEmpty v).NP := by
  unfold elementEmpty; (repeat' split) <;> trivial

/-- a unary operator's check never panics; `unreachable!()` is reached by binary operators only -/
theorem unaryCheck_np (op : CmpOp) (hop : op.isUnary = true) (opNot inverse : Bool) (v : QR) : (unaryCheck op opNot inverse v).NP := by
  have hb : (unaryBase op v).NP := by
    unfold unaryBase
    extract_lets isT
    have hT : ∀ f, (isT f).NP := fun f => by simp only [isT]; split <;> trivial
    cases op <;> cases hop <;> first | exact hT _ | exact elementEmpty_np v | trivial
  unfold unaryCheck; sat_bind hb

theorem perValue_sat {S : PanicSite → Prop} {f : PV → Outcome (Option PV)} (hf : ∀ v, (f v).Sat S fun _ => True) :
    ∀ a, (perValue f a).Sat S fun _ => True
  | [] => trivial
  | q :: qs => by
    have ih := perValue_sat hf qs
    unfold perValue
    cases q with
    | unresolved u => dsimp only; sat_bind ih
    | _ => dsimp only; sat_bind (hf _); sat_bind ih

theorem joinGo_np : ∀ a, (joinFn.go a).NP
  | [] => trivial
  | q :: qs => by
    unfold joinFn.go
    split <;> first | sat_bind (joinGo_np qs) | trivial

theorem joinFn_np (a : List QR) (d : Str) : (joinFn a d).NP := by
  unfold joinFn; sat_bind (joinGo_np a)

/-- where `callFunction env name args` can panic: at the model-only float-oracle site (the `Env` float oracle has no
    entry for an integer's decimal form; never with the real `f64` parser), or indexing a missing argument list
    (`args[i]`) when there are fewer than the function's arity -/
def FnSite (name : FunctionName) (args : List (List QR)) (s : PanicSite) : Prop :=
  s = .floatOfInt ∨ s = .functionArgIndex ∧ args.length < name.arity

theorem callFunction_sat (env : Env) (name : FunctionName) (args : List (List QR)) :
    (callFunction env name args).Sat (FnSite name args) fun _ => True := by
  have hnone : ∀ {i : Nat}, i < name.arity → args[i]? = none → FnSite name args .functionArgIndex :=
    fun hi h => .inr ⟨rfl, Nat.lt_of_le_of_lt (List.getElem?_eq_none_iff.mp h) hi⟩
  -- `unfold` keeps the local definitions `arg`, `arg0`, `strArg` of the code: what each can raise is said once
  unfold callFunction
  extract_lets arg arg0 strArg
  have harg : ∀ i, i < name.arity → (arg i).Sat (FnSite name args) fun _ => True := by
    intro i hi; simp only [arg]; split
    · trivial
    · exact hnone hi ‹_›
  have harg0 : ∀ i, i < name.arity → (arg0 i).Sat (FnSite name args) fun _ => True := by
    intro i hi; simp only [arg0]; split
    · trivial
    · trivial
    · exact hnone hi ‹_›
  have hstr : ∀ i, i < name.arity → (strArg i).Sat (FnSite name args) fun _ => True := by
    intro i hi; simp only [strArg]; split <;> first | trivial | exact (harg0 i hi).of_panic ‹_›
  clear_value arg arg0 strArg
  dsimp only  -- the `let` in `parse_boolean`
  -- the arms of `match name`, named in the order they are written
  split
  case h_1 => sat_bind (harg 0 (by decide))  -- `count`
  case h_2 => trivial  -- `now`
  case h_4 =>  -- `regex_replace`
    exact .bind (hstr 1 (by decide)) fun re _ => .bind (hstr 2 (by decide)) fun rep _ => .bind (harg 0 (by decide)) fun a _ =>
      perValue_sat (fun v => by (repeat' split) <;> trivial) a
  case h_5 =>  -- `substring`
    refine .bind (harg0 1 (by decide)) fun f _ => .bind (harg0 2 (by decide)) fun t _ => ?_
    split
    · exact .bind (harg 0 (by decide)) fun a _ => perValue_sat (fun v => by split <;> trivial) a
    · trivial
  case h_8 =>  -- `join`
    refine .bind (harg0 1 (by decide)) fun d _ => .bind (P := fun _ => True) ?_ fun delim _ => .bind (harg 0 (by decide)) fun a _ =>
      .bind (joinFn_np a delim).sat fun _ _ => trivial
    split <;> trivial
  -- the functions of one argument: only `parse_float` has a leaf that is not a value or an error
  all_goals
    refine .bind (harg 0 (by decide)) fun a _ => perValue_sat (fun v => ?_) a
    (repeat' split) <;> first | trivial | exact .inl rfl

/-- **which panics a built-in function call can raise**: indexing a missing argument list (`args[i]`, excluded by the
    arities the parser enforces, `C08_call_no_index_panic`) and the integer-to-float conversion when the `Env` float
    oracle has no entry for an integer's decimal form (never with the real `f64` parser) — nothing else, for every
    function, argument result sets and environment. -/
theorem callFunction_sites (env : Env) (name : FunctionName) (args : List (List QR)) (site : PanicSite)
    (h1 : site ≠ .functionArgIndex) (h2 : site ≠ .floatOfInt) : callFunction env name args ≠ .panic site :=
  fun h => ((callFunction_sat env name args).of_panic h).elim h2 fun h' => h1 h'.1

theorem callFunction_arity {env : Env} {name : FunctionName} {args : List (List QR)} (ha : args.length = name.arity) :
    (callFunction env name args).Sat (· = .floatOfInt) fun _ => True :=
  (callFunction_sat env name args).mono (fun _ h => h.elim id fun h' => absurd (ha ▸ h'.2) (Nat.lt_irrefl _)) fun _ h => h

end Guard
