import Guard.Model.Ops
/-
  Guard.Lemmas.Order — what the comparison functions of `Guard.Model.Compare` do, said once: `compareValues` orders a
  pair or answers NotComparable, and `<`, `<=`, `>`, `>=`, `==` are functions of that ordering;
  one value against one literal through the `Ops` layer.
-/
namespace Guard

theorem cmpChar_eq {a b : Char} : cmpChar a b = .eq ↔ a = b :=
  Nat.compare_eq_eq.trans Char.toNat_inj

theorem cmpChar_swap (a b : Char) : (cmpChar a b).swap = cmpChar b a := Nat.compare_swap _ _

theorem Str.cmp_eq : ∀ {s t : Str}, Str.cmp s t = .eq ↔ s = t
  | [], [] => by simp [Str.cmp]
  | [], _ :: _ => by simp [Str.cmp]
  | _ :: _, [] => by simp [Str.cmp]
  | a :: as, b :: bs => by
    rw [Str.cmp, List.cons.injEq, ← cmpChar_eq, ← Str.cmp_eq (s := as)]
    cases cmpChar a b <;> simp

theorem Str.cmp_swap : ∀ (s t : Str), (Str.cmp s t).swap = Str.cmp t s
  | [], [] => rfl
  | [], _ :: _ => rfl
  | _ :: _, [] => rfl
  | a :: as, b :: bs => by
    rw [Str.cmp, Str.cmp, ← cmpChar_swap a b, ← Str.cmp_swap as bs]
    cases cmpChar a b <;> rfl

theorem compareValues_float (p q : Path) (x y : F64) :
    compareValues (.float p x) (.float q y) =
      if x.isNaN || y.isNaN then .err .NotComparable else .ok (compare x.key y.key) := by
  simp only [compareValues, F64.partialCmp]; cases x.isNaN || y.isNaN <;> rfl

/- The proofs below `split` on the match of `compareValues` and name its arms in the order they are
   written: `h_1` null, `h_2` int, `h_3` str, `h_4` float, `h_5` char, `h_6` every other pair. -/

theorem compareValues_ok_or_nc (a b : PV) :
    (∃ o, compareValues a b = .ok o) ∨ compareValues a b = .err .NotComparable := by
  unfold compareValues
  split
  case h_4 => split; exact .inl ⟨_, rfl⟩; exact .inr rfl
  case h_6 => exact .inr rfl
  all_goals exact .inl ⟨_, rfl⟩

theorem cmpWith_ok {a b : PV} {o : Ordering} (f : Ordering → Bool) (h : compareValues a b = .ok o) :
    cmpWith f a b = .ok (f o) := by rw [cmpWith, h]

theorem cmpWith_err {a b : PV} {e : ErrKind} (f : Ordering → Bool) (h : compareValues a b = .err e) :
    cmpWith f a b = .err e := by rw [cmpWith, h]

theorem compareEq_of_ok (env : Env) {a b : PV} {o : Ordering} (h : compareValues a b = .ok o) :
    compareEq env a b = .ok (o == .eq) := by
  have h' := h
  unfold compareValues at h'
  split at h'
  case h_3 p s q t =>
    cases h'; simp only [compareEq]
    cases hc : Str.cmp s t <;> simp [← Str.cmp_eq, hc]
  case h_6 => cases h'
  all_goals simp only [compareEq, h]

theorem compareValues_swap_ok {a b : PV} {o : Ordering} (h : compareValues a b = .ok o) :
    compareValues b a = .ok o.swap := by
  have h' := h
  unfold compareValues at h'
  split at h'
  case h_1 => cases h'; rfl
  case h_4 p x q y =>
    rw [compareValues_float] at h ⊢
    rw [Bool.or_comm]
    split at h <;> cases h
    rw [if_neg ‹_›, Int.compare_swap]
  case h_6 => cases h'
  all_goals cases h'; simp only [compareValues, Int.compare_swap, Str.cmp_swap, cmpChar_swap]

theorem cmpWith_swap (f : Ordering → Bool) (a b : PV) : cmpWith f b a = cmpWith (fun o => f o.swap) a b := by
  rcases compareValues_ok_or_nc a b with ⟨o, h⟩ | h
  · rw [cmpWith_ok _ h, cmpWith_ok _ (compareValues_swap_ok h)]
  · rcases compareValues_ok_or_nc b a with ⟨o, h'⟩ | h'
    · rw [compareValues_swap_ok h'] at h; cases h
    · rw [cmpWith_err _ h, cmpWith_err _ h']

theorem compare_of_ok (env : Env) {a b : PV} {o : Ordering} (h : compareValues a b = .ok o) :
    compareLt a b = .ok (o == .lt) ∧ compareLe a b = .ok (o != .gt) ∧ compareGt a b = .ok (o == .gt) ∧
    compareGe a b = .ok (o != .lt) ∧ compareEq env a b = .ok (o == .eq) :=
  ⟨cmpWith_ok _ h, cmpWith_ok _ h, cmpWith_ok _ h, cmpWith_ok _ h, compareEq_of_ok env h⟩

theorem isWithinKey_eq (lo hi x : Int) (incl : Nat) :
    isWithinKey lo hi x incl =
      ((if incl % 2 = 1 then decide (lo ≤ x) else decide (lo < x)) &&
       (if incl / 2 % 2 = 1 then decide (x ≤ hi) else decide (x < hi))) := by
  simp only [isWithinKey, beq_iff_eq]; split <;> split <;> rfl

theorem flattenedVals_single {x : PV} (hx : x.isList = false) :
    flattenedVals [.resolved x] = [x] ∧ flattenedVals [.literal x] = [x] := by
  cases x <;> first | exact ⟨rfl, rfl⟩ | cases hx

/-- truth value of an ordering operator on a three-way comparison result -/
def opTest (op : CmpOp) (o : Ordering) : Bool :=
  match op with
  | .lt => o == .lt | .le => o != .gt | .gt => o == .gt | _ => o != .lt

/-- the check that one ordered (or unordered) pair yields under a test of the ordering -/
def ordCheck (f : Ordering → Bool) (x y : PV) : VER :=
  match compareValues x y with
  | .ok o => if f o then verSuccess x y else verFail x y
  | _ => .cmp (.notComparable x y)

theorem matchValue_cmpWith (f : Ordering → Bool) (x y : PV) :
    matchValue (cmpWith f) x y = .ok (ordCheck f x y) := by
  rcases compareValues_ok_or_nc x y with ⟨o, h⟩ | h
  · simp only [matchValue, ordCheck, cmpWith_ok _ h, h]; cases f o <;> rfl
  · rw [matchValue, ordCheck, cmpWith_err _ h, h]

theorem commonCompare_single (f : Ordering → Bool) {x y : PV} (hx : x.isList = false) (hy : y.isList = false) :
    commonCompare (cmpWith f) [.resolved x] [.literal y] = .ok (.result [ordCheck f x y]) := by
  simp only [commonCompare, (flattenedVals_single hx).1, (flattenedVals_single hy).2, mapMOutcome,
    matchValue_cmpWith]
  rfl

theorem opCompare_ordering (env : Env) {op : CmpOp} (hop : op ∈ [CmpOp.lt, .le, .gt, .ge]) {lhs rhs : List QR}
    (h : (lhs.isEmpty || rhs.isEmpty) = false) :
    opCompare env op lhs rhs = commonCompare (cmpWith (opTest op)) lhs rhs := by
  simp only [List.mem_cons, List.mem_nil_iff, or_false] at hop
  rcases hop with rfl | rfl | rfl | rfl <;> simp only [opCompare, h] <;> rfl

theorem flipVER_ordCheck (env : Env) (op : CmpOp) (n m : Nat) (f : Ordering → Bool) (x y : PV) :
    flipVER env op n m (ordCheck f x y) = .ok (ordCheck (fun o => !f o) x y) := by
  unfold ordCheck
  cases compareValues x y <;> try rfl
  rename_i o; cases hf : f o <;> simp only [hf] <;> rfl

/-- **One value against one literal under an ordering operator**: exactly one check, which is the
    operator's test of the ordering, flipped by `not`; an unordered pair fails both ways. -/
theorem cmpCompare_ordering_single (env : Env) {op : CmpOp} (hop : op ∈ [CmpOp.lt, .le, .gt, .ge]) (neg : Bool)
    {x y : PV} (hx : x.isList = false) (hy : y.isList = false) :
    cmpCompare env op neg [.resolved x] [.literal y] =
      .ok (.result [ordCheck (fun o => opTest op o != neg) x y]) := by
  rw [cmpCompare, opCompare_ordering env hop rfl, commonCompare_single _ hx hy]
  cases neg
  · simp only [Bool.bne_false]; rfl
  · simp only [mapMOutcome, flipVER_ordCheck, Bool.bne_true]; rfl

end Guard
