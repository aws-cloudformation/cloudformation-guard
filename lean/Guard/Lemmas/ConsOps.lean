import Guard.Lemmas.Cons
import Guard.Lemmas.Outcome
/-
  Guard.Lemmas.ConsOps — the leaf records of comparisons: every entry a comparison reports is a `ClauseValueCheck`
  leaf whose status is the entry's outcome.
-/
namespace Guard

theorem nodeOk_valueCheck (c : ClauseCheck) : nodeOk (.clauseValueCheck c) [] = true := by
  cases c <;> rfl

theorem leaf_isValueCheck (c : ClauseCheck) : isValueCheck (Rec.node (.clauseValueCheck c) []) = true := rfl

theorem leaf_not_filter (c : ClauseCheck) : (Rec.node (.clauseValueCheck c) []).kind.isFilter = false := rfl

def Leaf (k : RecKind) (s : Status) : Prop := nodeOk k [] = true ∧ Lines isValueCheck [s] [Rec.node k []]

theorem Leaf.valueCheck (c : ClauseCheck) : Leaf (.clauseValueCheck c) (Rec.node (.clauseValueCheck c) []).status :=
  ⟨nodeOk_valueCheck c, rfl, rfl⟩

theorem realBinaryOne_good (env : Env) (op : CmpOp) (opNot : Bool) (msg : Option Str) (rhs : List QR) (each : QR) :
    (realBinaryOne env op opNot msg rhs each).Sat (fun _ => True) fun out => ∀ e ∈ out, Leaf e.1 e.2.2 := by
  unfold realBinaryOne
  split
  · exact List.forall_mem_singleton.mpr (.valueCheck _)
  -- `literal` and `resolved` values are compared alike
  all_goals
    extract_lets cmpF
    clear_value cmpF
    sat_bind (Outcome.Sat.top cmpF); sat_bind (Outcome.Sat.top (eachLhsCompare _ _ rhs))
    refine .ite (.ite (fun _ h => nomatch h) (.ite ?_ ?_)) (List.forall_mem_map.mpr fun c _ => ?_)
    · exact List.forall_mem_singleton.mpr (.valueCheck _)
    · exact List.forall_mem_singleton.mpr (.valueCheck _)
    · rcases c with ⟨_ | _, _, _⟩ | _ | _ <;> exact .valueCheck _

theorem inv_forIn_emit {γ} (st : γ → Status) : ∀ (es : List (RecKind × QR × γ)), (∀ e ∈ es, Leaf e.1 (st e.2.2)) →
    Inv (forIn es PUnit.unit fun (x : RecKind × QR × γ) (_ : PUnit) => do
        emit x.1
        pure (ForInStep.yield PUnit.unit) : M PUnit) (fun _ ps => Lines isValueCheck (es.map fun e => st e.2.2) ps)
  | [], _ => by rw [List.forIn_nil]; exact inv_pure _ ⟨rfl, rfl⟩
  | e :: es, h => by
    simp only [List.forIn_cons, bind_assoc, pure_bind]
    exact inv_bind (inv_emit (P := fun _ ps => Lines isValueCheck [st e.2.2] ps) _ (h e (.head _)).1 (h e (.head _)).2)
      (fun _ => inv_forIn_emit st es fun e' he' => h e' (List.mem_cons_of_mem _ he')) fun _ _ _ _ => lines_append

/-- `real_binary_operation`: one value check per reported entry, carrying the entry's status -/
theorem inv_realBinaryOperation (env : Env) (lhs rhs : List QR) (op : CmpOp) (opNot : Bool) (msg : Option Str) :
    Inv (realBinaryOperation env lhs rhs op opNot msg) fun res ps => Lines isValueCheck (res.map (·.2)) ps := by
  simp only [realBinaryOperation]
  -- which leaves are consistent is a fact about the rows, so what emits them is given what the comparison returned
  refine inv_liftO_bind (mapMOutcome_sat lhs fun x _ => realBinaryOne_good env _ opNot msg rhs x) fun rows hrows => ?_
  exact inv_map (inv_forIn_emit id rows.flatten (List.forall_mem_flatten.mpr hrows)) fun _ _ h => by rw [List.map_map]; exact h

/-- the `Filter` record of a `keys` filter: explained by the key comparisons under it -/
theorem invf_keysFilter (env : Env) (lhs rhs : List QR) (op : CmpOp) (opNot : Bool) :
    InvF (withRec (fun (rs : List (QR × Status)) => RecKind.filter (bodyStatus (rs.map (·.2))))
      (realBinaryOperation env lhs rhs op opNot none)) :=
  invf_filter <| inv_weaken (inv_realBinaryOperation env lhs rhs op opNot none) fun _ _ h =>
    aggOk_of_explains (h.2 ▸ explains_status _) rfl

end Guard
