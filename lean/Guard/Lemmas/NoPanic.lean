import Guard.Lemmas.Frames
import Guard.Lemmas.QueryWalk
import Guard.Lemmas.PureSites
import Guard.Model.WF
/-
  Guard.Lemmas.NoPanic — on well-formed (parser-shaped) rules files the evaluator model never reaches one of its
  `unreachable!()` / indexing / stack-shape panic sites.  `PN m`, for an action `m`, is the Hoare triple
  `Triple G Stable Allowed m`: from a good state (`G`: the stack ends in the root scope, the file and every frame are
  well formed) success keeps the scope stack and the rules file, and every panic is in the residue `Allowed`.
  The walk over the evaluator (`AllW`) follows the code of each function with the rules of `Triple`, once, under a flag:
  with the flag off it says that every function is `Stable` from every state (what `allPres` in FramesEval is read off),
  with the flag on it is `AllPN`.
-/
namespace Guard

/-- what is NOT excluded: `map.values.get(key).unwrap()` in the `keys` filter (guarded by the map representation
    invariant keys.len = values.len, which the model's `PV` does not carry) and the model-only float-oracle miss -/
def Allowed (s : PanicSite) : Prop := s = .mapKeyMissing ∨ s = .floatOfInt

/-- the scope stack ends in the root block scope -/
def Gd (fs : List Frame) : Prop := ∃ pre b, fs = pre ++ [Frame.block b]

def Frame.wf : Frame → Prop
  | .block b => (∀ n q a, (n, (q, a)) ∈ b.queries → wfQuery q = true) ∧
      (∀ n f ps, (n, (f, ps)) ∈ b.funs → (LetValue.func f ps).wf = true)
  | _ => True

def G (st : St) : Prop := Gd st.frames ∧ st.file.wf = true ∧ ∀ f ∈ st.frames, f.wf

def PN {α} (m : M α) : Prop := ∀ st, G st →
  (∀ a st', m st = .ok (a, st') → FramesSim st.frames st'.frames ∧ st'.file = st.file) ∧
  (∀ s, m st = .panic s → Allowed s)

theorem Frame.wf_sim {f g : Frame} (h : f.sim g) (hf : f.wf) : g.wf := by
  cases f <;> cases g <;> try (first | exact h.elim | trivial)
  obtain ⟨_, _, hq, hfu⟩ := h
  simp only [Frame.wf, ← hq, ← hfu]; exact hf

theorem Gd_sim {a b : List Frame} (hs : FramesSim a b) : Gd a → Gd b := by
  rintro ⟨pre, blk, rfl⟩
  -- reversed, both stacks begin with the root scope
  have hr := hs.reverse
  rw [List.reverse_append] at hr
  obtain ⟨b', gs, e, _⟩ := FramesSim.block_inv hr
  exact ⟨gs.reverse, b', by rw [← List.reverse_reverse b, e, List.reverse_cons]⟩

theorem wf_sim {a b : List Frame} (h : FramesSim a b) : (∀ f ∈ a, f.wf) → ∀ g ∈ b, g.wf :=
  h.ind (motive := fun a b => (∀ f ∈ a, f.wf) → ∀ g ∈ b, g.wf) (fun _ => nofun) fun h1 _ ih hw =>
    List.forall_mem_cons.mpr ⟨Frame.wf_sim h1 (hw _ (.head _)), ih fun y hy => hw y (.tail _ hy)⟩

theorem G_step {st st' : St} (h : Stable st st') (hg : G st) : G st' :=
  ⟨Gd_sim h.1 hg.1, by rw [h.2]; exact hg.2.1, wf_sim h.1 hg.2.2⟩

theorem Gd_cons {f : Frame} {fs : List Frame} (h : Gd fs) : Gd (f :: fs) := by
  obtain ⟨pre, b, e⟩ := h; exact ⟨f :: pre, b, by rw [e]; rfl⟩

theorem G_push {st : St} {f : Frame} (hfw : f.wf) (hg : G st) : G { st with frames := f :: st.frames } :=
  ⟨Gd_cons hg.1, hg.2.1, by
    intro x hx
    rcases List.mem_cons.mp hx with rfl | hx
    · exact hfw
    · exact hg.2.2 x hx⟩

theorem G_root_only {st : St} (hg : G st) (rip : List Str) :
    G { st with rulesInProgress := rip, frames := st.frames.drop st.frames.dropLast.length } := by
  obtain ⟨⟨pre, b, e⟩, hf, hw⟩ := hg
  refine ⟨?_, hf, ?_⟩
  · refine ⟨[], b, ?_⟩
    show st.frames.drop st.frames.dropLast.length = [Frame.block b]
    rw [e, List.dropLast_concat, List.drop_left]
  · intro f hfm
    exact hw f (List.mem_of_mem_drop hfm)

theorem G_tail {st : St} {f : Frame} {rest : List Frame} (hg : G st) (hf : st.frames = f :: rest) (hne : rest.isEmpty = false) :
    G { st with frames := rest } := by
  obtain ⟨⟨pre, b, e⟩, hfile, hw⟩ := hg
  refine ⟨?_, hfile, ?_⟩
  · rw [hf] at e
    cases pre with
    | nil => cases e; cases hne
    | cons p pre' => cases e; exact ⟨pre', b, rfl⟩
  · intro x hx; exact hw x (by rw [hf]; exact List.mem_cons_of_mem _ hx)

theorem rootOf_Gd : ∀ {fs : List Frame}, Gd fs → rootOfFrames fs ≠ none := by
  intro fs ⟨pre, b, e⟩
  subst e
  induction pre with
  | nil => exact Option.some_ne_none _
  | cons f pre ih =>
    cases f with
    | block b' => exact Option.some_ne_none _
    | value r => exact Option.some_ne_none _
    | params ps => exact ih

/-! ### the flag

The walk over the evaluator is made once, for `W strict m`: the good state, the residue and every well-formedness
hypothesis are asked for only when the proposition `strict` holds.  At `strict := False` every guard is vacuous and what is
left says that `m` is `Stable` from every state (so the scope stack is preserved, `W.pres`, and `St.file` untouched); at
`strict := True` it is `PN m` (`W.pn`). -/

section
variable {strict : Prop}

def GoodIf (strict : Prop) (st : St) : Prop := strict → G st

def AllowedIf (strict : Prop) (site : PanicSite) : Prop := strict → Allowed site

abbrev W (strict : Prop) {α} (m : M α) : Prop := Triple (GoodIf strict) Stable (AllowedIf strict) m

instance wLaw : Law (GoodIf strict) Stable := ⟨Stable.refl, Stable.trans, fun hg hs h => G_step hs (hg h)⟩

theorem W.pres {α} {m : M α} (h : W False m) : Pres m := fun st _ _ hr => ((h.sat st nofun).of_ok hr).1

theorem W.pn {α} {m : M α} (h : W True m) : PN m := fun st hg =>
  have hm := h.sat st fun _ => hg
  ⟨fun _ _ hr => hm.of_ok hr, fun _ hx => hm.of_panic hx trivial⟩

/-- a good state does not read the records -/
theorem w_withRec {α} {mk : α → RecKind} {m : M α} (hm : W strict m) : W strict (withRec mk m) := triple_withRec (fun _ => id) hm

theorem w_withValueScope {α} {root : PV} {m : M α} (hm : W strict m) : W strict (withValueScope root m) :=
  triple_pushPop (fun _ hg hs => G_push trivial (hg hs)) hm

theorem w_pushPopK {α β} {f : Frame} {m : M α} {k : α → M β} (hfw : strict → f.wf) (hm : W strict m) (hk : ∀ a, W strict (k a)) :
    W strict (do pushFrame f; let r ← m; popFrame; k r) := triple_pushPopK (fun _ hg hs => G_push (hfw hs) (hg hs)) hm hk

/-- `resolver.root()` never fails: the stack always ends in the root scope -/
theorem w_currentRoot : W strict currentRoot :=
  triple_currentRoot fun _ hg h hs => absurd h (rootOf_Gd (hg hs).1)

end

/-- the `wf` of a list in the mutual block of `Guard.Model.WF` is the `wf` of every member -/
theorem wf_mem_of_cons {α} {w : List α → Bool} {p : α → Bool} (hc : ∀ x xs, w (x :: xs) = true → p x = true ∧ w xs = true) :
    ∀ {l : List α}, w l = true → ∀ x ∈ l, p x = true
  | [], _, _, hx => nomatch hx
  | y :: ys, h, x, hx => (List.mem_cons.mp hx).elim (· ▸ (hc y ys h).1) (wf_mem_of_cons hc (hc y ys h).2 x)

theorem wfLets_mem : ∀ {lets : List LetExpr}, wfLets lets = true → ∀ l ∈ lets, l.wf = true :=
  wf_mem_of_cons fun _ _ h => by simpa only [wfLets, Bool.and_eq_true] using h

theorem extractVariables_wf (lets : List LetExpr) (root : PV) (h : wfLets lets = true) :
    (Frame.block (extractVariables lets root)).wf := by
  unfold extractVariables
  refine List.foldlRecOn lets _ (motive := fun b => (Frame.block b).wf) ⟨nofun, nofun⟩ fun b hb l hl => ?_
  have hlw := wfLets_mem h l hl
  obtain ⟨var, value⟩ := l
  cases value with
  | value v => exact hb
  | access q a => exact ⟨fun n q' a' hm => (alInsert_mem hm).elim (fun e => by cases e; exact hlw) (hb.1 n q' a'), hb.2⟩
  | func fn ps => exact ⟨hb.1, fun n f' ps' hm => (alInsert_mem hm).elim (fun e => by cases e; exact hlw) (hb.2 n f' ps')⟩

theorem wfParts_get {query : List QueryPart} {qi : Nat} {part : QueryPart} (hw : wfParts query = true)
    (h : query[qi]? = some part) : part.wf = true :=
  wf_mem_of_cons (w := wfParts) (fun _ _ h => by simpa only [wfParts, Bool.and_eq_true] using h) hw part (List.mem_of_getElem? h)

theorem headOk_not_filter {query : List QueryPart} {name : Option Str} {cnf : Cnf} (h : headOk query = true)
    (hq : query[0]? = some (.filter name cnf)) : False := by
  cases query with
  | nil => cases hq
  | cons p ps => cases hq; cases h

theorem wfParams_mem : ∀ {ps : List LetValue}, wfParams ps = true → ∀ p ∈ ps, p.wf = true :=
  wf_mem_of_cons fun _ _ h => by simpa only [wfParams, Bool.and_eq_true] using h

theorem lenParams_eq : ∀ (ps : List LetValue), lenParams ps = ps.length
  | [] => rfl
  | _ :: ps => by simp [lenParams, lenParams_eq ps]

theorem wfLine_mem : ∀ {l : List Clause}, wfLine l = true → ∀ c ∈ l, c.wf = true :=
  wf_mem_of_cons fun _ _ h => by simpa only [wfLine, Bool.and_eq_true] using h

theorem wfCnf_mem : ∀ {c : Cnf}, wfCnf c = true → ∀ l ∈ c, wfLine l = true :=
  wf_mem_of_cons fun _ _ h => by simpa only [wfCnf, Bool.and_eq_true] using h

theorem RulesFile.wf_iff {f : RulesFile} :
    f.wf = true ↔ wfLets f.lets = true ∧ (∀ r ∈ f.rules, r.wf = true) ∧ ∀ p ∈ f.prules, p.rule.wf = true := by
  simp only [RulesFile.wf, Bool.and_eq_true, List.all_eq_true, and_assoc]

section
variable {strict : Prop}

theorem w_realBinaryOperation (env : Env) (lhs rhs : List QR) (op : CmpOp) (hop : strict → op.isUnary = false) (opNot : Bool)
    (msg : Option Str) : W strict (realBinaryOperation env lhs rhs op opNot msg) := by
  unfold realBinaryOperation
  have hop' : strict → (if op == .eq && rhs.length > 1 then CmpOp.in_ else op).isUnary = false := fun hs => by
    split
    · rfl
    · exact hop hs
  exact triple_bind (triple_liftO (.guard fun hs => (mapMOutcome_np (realBinaryOne_np env _ (hop' hs) opNot msg rhs) lhs).sat))
    fun rows => triple_bind (triple_emitAll _) fun _ => triple_pure _

/-- `AllPN` with every hypothesis guarded.  The two hypotheses on the index (`qi = 0 → headOk query`, `index ≠ 0`) keep
    `queryRetrieval` away from its `filterFirst` site: a filter is never the first part of a query. -/
structure AllW (strict : Prop) (env : Env) (fuel : Nat) : Prop where
  qr : ∀ qi query current conv, (strict → wfParts query = true) → (strict → qi = 0 → headOk query = true) →
    W strict (queryRetrieval env fuel qi query current conv)
  acc : ∀ parent qi query elements conv, (strict → wfParts query = true) →
    W strict (accumulate env fuel parent qi query elements conv)
  cad : ∀ cnf name index query key value conv, (strict → wfCnf cnf = true) → (strict → wfParts query = true) →
    (strict → index ≠ 0) → W strict (checkAndDelegate env fuel cnf name index query key value conv)
  qctx : ∀ q, (strict → wfQuery q = true) → W strict (queryCtx env fuel q)
  rvar : ∀ name, W strict (resolveVariable env fuel name)
  rfun : ∀ name params, (strict → (LetValue.func name params).wf = true) → W strict (resolveFunction env fuel name params)
  cnf : ∀ c, (strict → wfCnf c = true) → W strict (evalCnf env fuel c)
  line : ∀ l, (strict → wfLine l = true) → W strict (evalLine env fuel l)
  alts : ∀ l, (strict → wfLine l = true) → W strict (evalAlternatives env fuel l)
  clause : ∀ c, (strict → c.wf = true) → W strict (evalClause env fuel c)
  block : ∀ lets c, (strict → wfLets lets = true) → (strict → wfCnf c = true) → W strict (evalGeneralBlock env fuel lets c)
  unary : ∀ q op opNot inverse msg, (strict → wfQuery q = true) → (strict → q.isEmpty = false) → (strict → op.isUnary = true) →
    W strict (unaryOperation env fuel q op opNot inverse msg)
  binary : ∀ q rhs op opNot msg, (strict → wfQuery q = true) → W strict (binaryOperation env fuel q rhs op opNot msg)
  pcall : ∀ rule neg msg params, (strict → wfParams params = true) → W strict (evalParamCall env fuel rule neg msg params)
  rstat : ∀ name, W strict (ruleStatus env fuel name)
  fns : ∀ rules, (strict → ∀ r ∈ rules, r.wf = true) → W strict (firstNonSkip env fuel rules)
  rule : ∀ r, (strict → r.wf = true) → W strict (evalRule env fuel r)

/-- without fuel every function stops at once, by computation; the two that recurse on a list first look at the list -/
theorem allW_zero (env : Env) : AllW strict env 0 where
  qr _ _ _ _ _ _ := triple_outOfFuel
  acc _ _ _ _ _ _ := triple_outOfFuel
  cad _ _ _ _ _ _ _ _ _ _ := triple_outOfFuel
  qctx _ _ := triple_outOfFuel
  rvar _ := triple_outOfFuel
  rfun _ _ _ := triple_outOfFuel
  cnf _ _ := triple_outOfFuel
  line _ _ := triple_outOfFuel
  alts
    | [], _ => triple_pure _
    | _ :: _, _ => triple_outOfFuel
  clause _ _ := triple_outOfFuel
  block _ _ _ _ := triple_outOfFuel
  unary _ _ _ _ _ _ _ _ := triple_outOfFuel
  binary _ _ _ _ _ _ := triple_outOfFuel
  pcall _ _ _ _ _ := triple_outOfFuel
  rstat _ := triple_outOfFuel
  fns
    | [], _ => triple_pure _
    | _ :: _, _ => triple_outOfFuel
  rule _ _ := triple_outOfFuel

end

theorem findParamRule_spec {name : Str} {st s1 : St} {pr : ParamRule} (h : findParamRule name st = .ok (pr, s1)) :
    pr ∈ st.file.prules := by
  simp only [findParamRule, bind_run, get_run] at h
  cases hr : (st.file.prules.filter fun r => r.rule.name = name).getLast? with
  | some r => rw [hr] at h; cases h; exact (List.mem_filter.mp (List.mem_of_getLast? hr)).1
  | none => rw [hr] at h; cases h

/- In the walk a guarded conjunction of well-formedness facts is taken apart with `imp_and`:
   `strict → a ∧ b` becomes `(strict → a) ∧ (strict → b)`, and each part is handed on as it stands. -/
section
variable {strict : Prop} {env : Env} {fuel : Nat} (ih : AllW strict env fuel)
include ih

theorem AllW.qr0 {q : List QueryPart} (hq : strict → wfQuery q = true) (current : PV) (conv : Option Nat) :
    W strict (queryRetrieval env fuel 0 q current conv) := by
  simp only [wfQuery, Bool.and_eq_true, imp_and] at hq
  exact ih.qr 0 q current conv hq.2 fun hs _ => hq.1 hs

theorem w_acc (parent qi query elements conv) (hw : strict → wfParts query = true) :
    W strict (accumulate env (fuel + 1) parent qi query elements conv) := by
  simp only [accumulate]
  exact triple_ite (triple_pure _) (triple_flatMapM fun each => ih.qr (qi + 1) query each conv hw fun _ => nofun)

theorem w_cad (cnf name index query key value conv)
    (hc : strict → wfCnf cnf = true) (hw : strict → wfParts query = true) (hi : strict → index ≠ 0) :
    W strict (checkAndDelegate env (fuel + 1) cnf name index query key value conv) :=
  triple_checkAndDelegate (w_withRec (ih.cnf cnf hc)) (triple_addCaptureKey · _)
    (ih.qr index query value conv hw fun hs h => absurd h (hi hs))

theorem w_qctx (q) (hq : strict → wfQuery q = true) : W strict (queryCtx env (fuel + 1) q) := by
  simp only [queryCtx]
  exact triple_bind w_currentRoot fun root => ih.qr0 hq root none

theorem w_cnf (c : Cnf) (hc : strict → wfCnf c = true) : W strict (evalCnf env (fuel + 1) c) := by
  simp only [evalCnf]
  exact triple_map (triple_mapM _ fun line hl =>
    have := ih.line line fun hs => wfCnf_mem (hc hs) line hl
    triple_ite (w_withRec this) this)

theorem w_line (l : List Clause) (hl : strict → wfLine l = true) : W strict (evalLine env (fuel + 1) l) := by
  simp only [evalLine]
  exact triple_map (ih.alts l hl)

theorem w_alts : ∀ (l : List Clause), (strict → wfLine l = true) → W strict (evalAlternatives env (fuel + 1) l)
  | [], _ => by simp only [evalAlternatives]; exact triple_pure _
  | c :: rest, hl => by
    simp only [evalAlternatives]
    simp only [wfLine, Bool.and_eq_true, imp_and] at hl
    exact triple_bind (ih.clause c hl.1) fun _ => triple_ite (triple_pure _) (triple_map (ih.alts rest hl.2))

theorem w_block (lets : List LetExpr) (c : Cnf) (hl : strict → wfLets lets = true)
    (hc : strict → wfCnf c = true) : W strict (evalGeneralBlock env (fuel + 1) lets c) := by
  simp only [evalGeneralBlock]
  exact triple_bind w_currentRoot fun root =>
    w_pushPopK (fun hs => extractVariables_wf lets root (hl hs)) (ih.cnf c hc) fun _ => triple_pure _

theorem w_fns : ∀ (rules : List Rule), (strict → ∀ r ∈ rules, r.wf = true) → W strict (firstNonSkip env (fuel + 1) rules)
  | [], _ => by simp only [firstNonSkip]; exact triple_pure _
  | r :: rest, h => by
    simp only [firstNonSkip]
    exact triple_bind (ih.rule r fun hs => h hs r (List.mem_cons_self ..)) fun _ =>
      triple_ite (triple_pure _) (ih.fns rest fun hs x hx => h hs x (List.mem_cons_of_mem _ hx))

theorem w_rule (r : Rule) (hr : strict → r.wf = true) : W strict (evalRule env (fuel + 1) r) := by
  simp only [evalRule]
  simp only [Rule.wf, Bool.and_eq_true, imp_and] at hr
  have hb := ih.block _ _ hr.1.2 hr.2
  apply w_withRec
  split
  · next cs hcs =>
    rw [hcs] at hr
    exact triple_bind (w_withRec (ih.cnf cs hr.1.1)) fun c => triple_ite (triple_pure _) hb
  · exact hb

/-- evaluating one function / rule argument -/
theorem w_argValue (lit : PV → QR) (p : LetValue) (hp : strict → p.wf = true) :
    W strict (match p with
      | .value v => pure [lit v]
      | .access q _ => queryCtx env fuel q
      | .func n ps => resolveFunction env fuel n ps) := by
  cases p with
  | value v => exact triple_pure _
  | access q a => exact ih.qctx q hp
  | func n ps => exact ih.rfun n ps hp

theorem w_rfun (name : FunctionName) (params : List LetValue)
    (hw : strict → (LetValue.func name params).wf = true) : W strict (resolveFunction env (fuel + 1) name params) := by
  simp only [resolveFunction]
  simp only [LetValue.wf, Bool.and_eq_true, beq_iff_eq, imp_and] at hw
  refine triple_bind_ev (triple_mapM _ fun p hp => w_argValue ih QR.literal p fun hs => wfParams_mem (hw.2 hs) p hp) fun args hev => ?_
  obtain ⟨st, s1, _, hm⟩ := hev
  -- `ret_mapM` is used for the length only: as many argument results as parameters
  have hlen : strict → args.length = name.arity := fun hs => by
    rw [(ret_mapM (Q := fun _ => True) _ (fun _ _ _ _ _ _ => trivial) _ _ _ hm).1, ← lenParams_eq]; exact hw.1 hs
  exact triple_bind (triple_liftO (.guard fun hs => (callFunction_arity (hlen hs)).mono (fun _ => .inr) fun _ h => h))
    fun out => triple_pure _

theorem w_binary (q : List QueryPart) (rhs : List QR) (op : CmpOp) (opNot : Bool)
    (msg : Option Str) (hq : strict → wfQuery q = true) : W strict (binaryOperation env (fuel + 1) q rhs op opNot msg) := by
  simp only [binaryOperation]
  refine triple_bind (ih.qctx q hq) fun lhs => triple_bind (triple_liftO (cmpCompare_np env op opNot lhs rhs).sat) fun results => ?_
  split
  · exact triple_pure _
  · exact triple_bind (triple_emitAll _) fun _ => triple_pure _

theorem w_unary (q : List QueryPart) (op : CmpOp) (opNot inverse : Bool) (msg : Option Str)
    (hq : strict → wfQuery q = true) (hne : strict → q.isEmpty = false) (hop : strict → op.isUnary = true) :
    W strict (unaryOperation env (fuel + 1) q op opNot inverse msg) := by
  unfold unaryOperation
  refine triple_bind (ih.qctx q hq) fun lhs => ?_
  extract_lets -underBinder k
  have hk : ∀ e, W strict (k e) := fun _ =>
    triple_ite
      (triple_ite (triple_map (triple_mapM _ fun _ _ => triple_emitIf)) triple_emitIf)
      (triple_ite (triple_pure _) (triple_map (triple_mapM _ fun _ _ =>
        triple_bind (triple_liftO (.guard fun hs => (unaryCheck_np op (hop hs) _ _ _).sat)) fun _ => triple_emitIf)))
  split
  · exact triple_bind (triple_throwPanic fun hs =>
      absurd (List.getLast?_eq_none_iff.mp ‹_›) (by rintro rfl; cases hne hs)) hk
  all_goals exact triple_bind (triple_pure _) hk

theorem w_clause (c : Clause) (hc : strict → c.wf = true) : W strict (evalClause env (fuel + 1) c) := by
  cases c with
  | access neg q all op opNot withV msg =>
    unfold Clause.wf at hc; simp only [← wfQuery.eq_1, Bool.and_eq_true, imp_and] at hc
    obtain ⟨⟨hq, hu⟩, hv⟩ := hc
    simp -zeta only [evalClause]
    apply w_withRec
    extract_lets -underBinder fin bin
    have hfin : ∀ res, W strict (fin res) := fun res => by simp only [fin]; split <;> exact triple_pure _
    have hbin : ∀ rhs, W strict (bin rhs) := fun rhs => triple_bind (ih.binary q rhs op _ msg hq) hfin
    split
    · next hop => exact triple_bind (ih.unary q op opNot neg msg hq (fun hs => by simpa [hop] using hu hs) fun _ => hop) hfin
    · split
      · exact triple_bind (triple_pure _) hbin
      · exact triple_bind (ih.qctx _ hv) hbin
      · exact triple_bind (ih.rfun _ _ hv) hbin
      · exact triple_bind (triple_throwErr _) hbin
  | named rule neg msg =>
    simp only [evalClause]
    exact w_withRec (triple_map (ih.rstat rule))
  | call rule neg msg params =>
    simp only [evalClause]
    unfold Clause.wf at hc
    exact ih.pcall rule neg msg params hc
  | block q all notEmpty lets cnf =>
    unfold Clause.wf at hc; simp only [← wfQuery.eq_1, Bool.and_eq_true, imp_and] at hc
    simp only [evalClause]
    refine w_withRec (triple_bind (ih.qctx q hc.1.1) fun values => triple_ite (triple_pure _) (triple_map (triple_mapM _ fun each _ => ?_)))
    split
    · exact triple_map (triple_emit _)
    all_goals exact w_withValueScope (ih.block lets cnf hc.1.2 hc.2)
  | whenBlock conds lets cnf =>
    unfold Clause.wf at hc; simp only [Bool.and_eq_true, imp_and] at hc
    simp only [evalClause]
    exact w_withRec (triple_bind (w_withRec (ih.cnf conds hc.1.1)) fun c => triple_ite (triple_pure _) (ih.block lets cnf hc.1.2 hc.2))
  | typeBlock name conds lets cnf q =>
    unfold Clause.wf at hc; simp only [Bool.and_eq_true, imp_and] at hc
    obtain ⟨⟨⟨⟨hcd, hl⟩, hcn⟩, hh⟩, hp⟩ := hc
    simp -zeta only [evalClause]
    apply w_withRec
    extract_lets go
    have hgo : W strict go := triple_bind (ih.qctx q fun hs => by simp [wfQuery, hh hs, hp hs]) fun values =>
      triple_ite (triple_pure _) (triple_map (triple_mapM _ fun each _ => by
        split
        · exact w_withRec (w_withValueScope (ih.block lets cnf hl hcn))
        · exact w_withRec (w_withValueScope (ih.block lets cnf hl hcn))
        · exact triple_throwErr _))
    split
    · exact triple_bind (w_withRec (ih.cnf _ hcd)) fun c => triple_ite (triple_pure _) hgo
    · exact hgo

/-- the definition of a variable is well formed because its block frame is -/
theorem w_varDef {name : Str} {b : BlockFrame} {m : M (List QR)} (hm : VarDef env fuel name b m) (hb : strict → (Frame.block b).wf) :
    W strict m := by
  rcases hm with ⟨fn, ps, hl, rfl⟩ | ⟨q, all, hl, rfl⟩
  · exact ih.rfun fn ps fun hs => (hb hs).2 name fn ps (alLookup_mem hl)
  · exact ih.qr0 (fun hs => (hb hs).1 name q all (alLookup_mem hl)) b.root none

theorem w_rvar (name : Str) : W strict (resolveVariable env (fuel + 1) name) := by
  refine ⟨fun st hg => ?_⟩
  -- the states the two recursive runs start from are good if `st` is
  have hrest : ∀ {f rest}, st.frames = f :: rest → rest.isEmpty = false → GoodIf strict { st with frames := rest } :=
    fun hf hne hs => G_tail (hg hs) hf hne
  have hdef : ∀ {b rest m}, st.frames = .block b :: rest → VarDef env fuel name b m →
      W strict m ∧ GoodIf strict { st with frames := .block { b with inProgress := name :: b.inProgress } :: rest } := fun {b rest _} hf hm =>
    ⟨w_varDef ih hm fun hs => (hg hs).2.2 (.block b) (hf ▸ .head _),
      fun hs => G_step (st := st) ⟨by rw [hf]; exact ⟨⟨rfl, rfl, rfl, rfl⟩, .refl rest⟩, rfl⟩ (hg hs)⟩
  refine resolveVariable_sat.mono (fun x hx => ?_) fun (r, st') hok => ?_
  · rcases hx with ⟨f, rest, hf, hne, hr⟩ | ⟨b, rest, m, hf, hm, hr⟩
    · exact ((ih.rvar name).sat _ (hrest hf hne)).of_panic hr
    · obtain ⟨hm, hst⟩ := hdef hf hm
      rcases hr with hr | ⟨r0, s2, hr, hne⟩
      · exact (hm.sat _ hst).of_panic hr
      · -- `finish` finds the block frame on top again: the stack is preserved
        obtain ⟨b', gs, e, _⟩ := FramesSim.block_inv ((hm.sat _ hst).of_ok hr).1
        exact absurd e (hne b' gs)
  · rcases hok with rfl | ⟨f, rest, s2, hf, hne, hr, rfl⟩ | ⟨b, rest, m, r0, s2, b', rest', hf, hm, hr, hf2, rfl⟩
    · exact .refl _
    · have := ((ih.rvar name).sat _ (hrest hf hne)).of_ok hr
      exact ⟨hf ▸ ⟨f.sim_refl, this.1⟩, this.2⟩
    · obtain ⟨hm, hst⟩ := hdef hf hm
      obtain ⟨hs, hfile⟩ := (hm.sat _ hst).of_ok hr
      rw [hf2] at hs
      exact ⟨hf ▸ ⟨Frame.sim_trans (g := .block b') hs.1 ⟨rfl, rfl, rfl, rfl⟩, hs.2⟩, hfile⟩

theorem w_qr (qi : Nat) (query : List QueryPart) (current : PV) (conv : Option Nat)
    (hw : strict → wfParts query = true) (hh0 : strict → qi = 0 → headOk query = true) :
    W strict (queryRetrieval env (fuel + 1) qi query current conv) := by
  refine triple_queryRetrieval (fun _ => w_withValueScope) triple_addCaptureKey ih.rvar
    (fun i v hi => ih.qr i query v conv hw fun _ h => absurd h hi) (fun v c => ih.qr _ query v c hw fun _ => nofun)
    (fun els => ih.acc _ _ _ els _ hw) (fun name cnf hq => ?_) fun name op opNot withV hq => ?_
  · have hpw : strict → wfCnf cnf = true := fun hs => wfParts_get (hw hs) hq
    exact ⟨fun h hs => (headOk_not_filter (hh0 hs h) (h ▸ hq)).elim,
      fun n k v => ih.cad cnf n (qi + 1) query k v conv hpw hw fun _ => nofun,
      fun v => w_withRec (w_withValueScope (ih.cnf cnf hpw))⟩
  · have hop : strict → op.isUnary = false ∧ withV.wf = true := fun hs => by simpa [QueryPart.wf] using wfParts_get (hw hs) hq
    rw [imp_and] at hop
    exact ⟨fun _ => .inl rfl,  -- the residue `mapKeyMissing`
      fun q a e => by subst e; exact ih.qr0 hop.2 _ conv, fun f ps e => ih.rfun f ps (e ▸ hop.2),
      fun lhs rhs => w_withRec (w_realBinaryOperation env lhs rhs op hop.1 opNot none)⟩

theorem w_pcall (rule : Str) (neg : Bool) (msg : Option Str)
    (params : List LetValue) (hp : strict → wfParams params = true) : W strict (evalParamCall env (fuel + 1) rule neg msg params) := by
  simp only [evalParamCall]
  refine triple_bind_ev (triple_findParamRule rule) (fun pr hev => ?_)
  obtain ⟨st, s1, hg, hf⟩ := hev
  have hpr : strict → pr.rule.wf = true := fun hs => (RulesFile.wf_iff.mp (hg hs).2.1).2.2 pr (findParamRule_spec hf)
  split
  · exact triple_throwErr _
  · refine triple_bind (triple_mapM _ fun p hpm => w_argValue ih QR.resolved p fun hs => wfParams_mem (hp hs) p hpm) fun vals => ?_
    refine w_pushPopK (f := mkParamsFrame pr.params vals) (fun _ => by unfold mkParamsFrame; trivial) (ih.rule pr.rule hpr) fun _ => ?_
    -- the message of the called rule's record is rewritten: records only
    refine triple_bind (triple_modify fun st => ?_) fun _ => triple_pure _
    repeat' split
    all_goals exact .refl _

theorem w_rstat (name : Str) : W strict (ruleStatus env (fuel + 1) name) := by
  refine ⟨fun st hg => ?_⟩
  -- the rules of that name are well formed because the file is, and are evaluated on the root scope alone
  have hfns := (ih.fns (st.file.rules.filter fun r => r.name = name)
    fun hs r hr => (RulesFile.wf_iff.mp (hg hs).2.1).2.1 r (List.mem_filter.mp hr).1).sat _
    fun hs => G_root_only (hg hs) (name :: st.rulesInProgress)
  refine ruleStatus_sat.mono (fun _ => hfns.of_panic) fun (r, st') hok => ?_
  rcases hok with rfl | ⟨s4, hr, rfl⟩
  · exact .refl _
  · obtain ⟨hs, hfile⟩ := hfns.of_ok hr
    refine ⟨?_, hfile⟩
    -- the inner frames were set aside for the rule and are put back in front of what it left of the root scope
    have hl : st.frames.dropLast ++ st.frames.drop st.frames.dropLast.length = st.frames :=
      List.prefix_iff_eq_append.mp (List.dropLast_prefix _)
    have := (FramesSim.refl st.frames.dropLast).append hs
    rwa [hl] at this

theorem allW_succ : AllW strict env (fuel + 1) where
  qr := w_qr ih
  acc := w_acc ih
  cad := w_cad ih
  qctx := w_qctx ih
  rvar := w_rvar ih
  rfun := w_rfun ih
  cnf := w_cnf ih
  line := w_line ih
  alts := w_alts ih
  clause := w_clause ih
  block := w_block ih
  unary := w_unary ih
  binary := w_binary ih
  pcall := w_pcall ih
  rstat := w_rstat ih
  fns := w_fns ih
  rule := w_rule ih

end

theorem allW {strict : Prop} (env : Env) : ∀ fuel, AllW strict env fuel
  | 0 => allW_zero env
  | fuel + 1 => allW_succ (allW env fuel)

structure AllPN (env : Env) (fuel : Nat) : Prop where
  qr : ∀ qi query current conv, wfParts query = true → (qi = 0 → headOk query = true) →
    PN (queryRetrieval env fuel qi query current conv)
  acc : ∀ parent qi query elements conv, wfParts query = true → PN (accumulate env fuel parent qi query elements conv)
  cad : ∀ cnf name index query key value conv, wfCnf cnf = true → wfParts query = true → index ≠ 0 →
    PN (checkAndDelegate env fuel cnf name index query key value conv)
  qctx : ∀ q, wfQuery q = true → PN (queryCtx env fuel q)
  rvar : ∀ name, PN (resolveVariable env fuel name)
  rfun : ∀ name params, (LetValue.func name params).wf = true → PN (resolveFunction env fuel name params)
  cnf : ∀ c, wfCnf c = true → PN (evalCnf env fuel c)
  line : ∀ l, wfLine l = true → PN (evalLine env fuel l)
  alts : ∀ l, wfLine l = true → PN (evalAlternatives env fuel l)
  clause : ∀ c, c.wf = true → PN (evalClause env fuel c)
  block : ∀ lets c, wfLets lets = true → wfCnf c = true → PN (evalGeneralBlock env fuel lets c)
  unary : ∀ q op opNot inverse msg, wfQuery q = true → q.isEmpty = false → op.isUnary = true →
    PN (unaryOperation env fuel q op opNot inverse msg)
  binary : ∀ q rhs op opNot msg, wfQuery q = true → PN (binaryOperation env fuel q rhs op opNot msg)
  pcall : ∀ rule neg msg params, wfParams params = true → PN (evalParamCall env fuel rule neg msg params)
  rstat : ∀ name, PN (ruleStatus env fuel name)
  fns : ∀ rules, (∀ r ∈ rules, r.wf = true) → PN (firstNonSkip env fuel rules)
  rule : ∀ r, r.wf = true → PN (evalRule env fuel r)

/-- every function of the evaluator, on well-formed arguments and from a good state, can only raise a residue panic -/
theorem allPN (env : Env) : ∀ fuel, AllPN env fuel := fun fuel =>
  have k := allW (strict := True) env fuel
  { qr := fun _ _ _ _ hw hh => (k.qr _ _ _ _ (fun _ => hw) fun _ => hh).pn
    acc := fun _ _ _ _ _ hw => (k.acc _ _ _ _ _ fun _ => hw).pn
    cad := fun _ _ _ _ _ _ _ hc hw hi => (k.cad _ _ _ _ _ _ _ (fun _ => hc) (fun _ => hw) fun _ => hi).pn
    qctx := fun _ hq => (k.qctx _ fun _ => hq).pn, rvar := fun _ => (k.rvar _).pn
    rfun := fun _ _ hw => (k.rfun _ _ fun _ => hw).pn, cnf := fun _ hc => (k.cnf _ fun _ => hc).pn
    line := fun _ hl => (k.line _ fun _ => hl).pn, alts := fun _ hl => (k.alts _ fun _ => hl).pn
    clause := fun _ hc => (k.clause _ fun _ => hc).pn, block := fun _ _ hl hc => (k.block _ _ (fun _ => hl) fun _ => hc).pn
    unary := fun _ _ _ _ _ hq hne hop => (k.unary _ _ _ _ _ (fun _ => hq) (fun _ => hne) fun _ => hop).pn
    binary := fun _ _ _ _ _ hq => (k.binary _ _ _ _ _ fun _ => hq).pn
    pcall := fun _ _ _ _ hp => (k.pcall _ _ _ _ fun _ => hp).pn, rstat := fun _ => (k.rstat _).pn
    fns := fun _ h => (k.fns _ fun _ => h).pn, rule := fun _ hr => (k.rule _ fun _ => hr).pn }

theorem G_init (file : RulesFile) (doc : PV) (hw : file.wf = true) : G (St.init file doc) := by
  refine ⟨⟨[], extractVariables file.lets doc, rfl⟩, hw, fun f hf => ?_⟩
  rw [List.mem_singleton.mp hf]; exact extractVariables_wf file.lets doc (RulesFile.wf_iff.mp hw).1

theorem w_evalRulesFile {strict : Prop} (env : Env) (fuel : Nat) (file : RulesFile) (hw : strict → file.wf = true) :
    W strict (evalRulesFile env fuel file) :=
  w_withRec (triple_map (triple_mapM _ fun r hr => (allW env fuel).rule r fun hs => (RulesFile.wf_iff.mp (hw hs)).2.1 r hr))

end Guard
