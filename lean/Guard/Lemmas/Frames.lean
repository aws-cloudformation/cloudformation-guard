import Guard.Lemmas.Monad
/-
  Guard.Lemmas.Frames — the scope stack discipline of the evaluator model.

  `FramesSim a b`: the scope stacks `a` and `b` have the same frames (same kinds, same roots, same
  static variable tables, same parameter bindings); only the memo tables and in-progress marks of
  block scopes may differ.  `Pres m`: the action `m`, when it succeeds, leaves a stack similar to
  the one it started from.  `Stable`: `FramesSim` of the scope stacks and the rules file untouched; then the
  rules of `Triple` that are specific to `Stable`.
-/

namespace Guard

def Frame.sim : Frame → Frame → Prop
  | .block b, .block b' => b.root = b'.root ∧ b.lits = b'.lits ∧ b.queries = b'.queries ∧ b.funs = b'.funs
  | .value r, .value r' => r = r'
  | .params ps, .params ps' => ps = ps'
  | _, _ => False

def FramesSim : List Frame → List Frame → Prop
  | [], [] => True
  | f :: fs, g :: gs => f.sim g ∧ FramesSim fs gs
  | _, _ => False

theorem Frame.sim_refl (f : Frame) : f.sim f := by cases f <;> simp [Frame.sim]

theorem Frame.sim_trans {f g h : Frame} (a : f.sim g) (b : g.sim h) : f.sim h := by
  cases f <;> cases g <;> cases h <;> simp_all [Frame.sim]

theorem Frame.sim_symm {f g : Frame} (a : f.sim g) : g.sim f := by
  cases f <;> cases g <;> simp_all [Frame.sim]

theorem FramesSim.refl : ∀ (a : List Frame), FramesSim a a
  | [] => trivial
  | f :: fs => ⟨f.sim_refl, FramesSim.refl fs⟩

theorem FramesSim.cons_inv {f : Frame} {fs l : List Frame} (h : FramesSim (f :: fs) l) :
    ∃ g gs, l = g :: gs ∧ f.sim g ∧ FramesSim fs gs := by
  cases l with
  | nil => exact h.elim
  | cons g gs => exact ⟨g, gs, rfl, h.1, h.2⟩

theorem FramesSim.ind {motive : List Frame → List Frame → Prop} (nil : motive [] [])
    (cons : ∀ {f g fs gs}, f.sim g → FramesSim fs gs → motive fs gs → motive (f :: fs) (g :: gs)) :
    ∀ {a b : List Frame}, FramesSim a b → motive a b
  | [], [], _ => nil
  | _ :: _, _ :: _, ⟨h1, h2⟩ => cons h1 h2 (FramesSim.ind nil cons h2)
  | [], _ :: _, h => h.elim
  | _ :: _, [], h => h.elim

theorem FramesSim.trans {a b c : List Frame} (h : FramesSim a b) : FramesSim b c → FramesSim a c :=
  h.ind (motive := fun a b => ∀ {c}, FramesSim b c → FramesSim a c) id (fun h1 _ ih _ hc =>
    let ⟨_, _, e, k1, k2⟩ := hc.cons_inv; e ▸ ⟨Frame.sim_trans h1 k1, ih k2⟩) (c := c)

theorem FramesSim.symm : ∀ {a b : List Frame}, FramesSim a b → FramesSim b a :=
  FramesSim.ind (motive := fun a b => FramesSim b a) trivial fun h1 _ ih => ⟨Frame.sim_symm h1, ih⟩

theorem FramesSim.length : ∀ {a b : List Frame}, FramesSim a b → a.length = b.length :=
  FramesSim.ind (motive := fun a b => a.length = b.length) rfl fun _ _ ih => congrArg (· + 1) ih

theorem FramesSim.tail {a b : List Frame} (h : FramesSim a b) : FramesSim a.tail b.tail :=
  h.ind (motive := fun a b => FramesSim a.tail b.tail) trivial fun _ h2 _ => h2

theorem FramesSim.append : ∀ {a b c d : List Frame}, FramesSim a b → FramesSim c d → FramesSim (a ++ c) (b ++ d) :=
  fun {_ _ c d} h h' => h.ind (motive := fun a b => FramesSim (a ++ c) (b ++ d)) h' fun h1 _ ih => ⟨h1, ih⟩

theorem FramesSim.reverse {a b : List Frame} (h : FramesSim a b) : FramesSim a.reverse b.reverse :=
  h.ind (motive := fun a b => FramesSim a.reverse b.reverse) trivial fun h1 _ ih => by
    rw [List.reverse_cons, List.reverse_cons]; exact ih.append ⟨h1, trivial⟩

theorem FramesSim.root {a b : List Frame} (h : FramesSim a b) : rootOfFrames a = rootOfFrames b :=
  h.ind (motive := fun a b => rootOfFrames a = rootOfFrames b) rfl fun {f g _ _} h1 _ ih => by
    cases f <;> cases g <;> simp_all [Frame.sim, rootOfFrames]

def Pres {α} (m : M α) : Prop := ∀ st a st', m st = .ok (a, st') → FramesSim st.frames st'.frames

theorem FramesSim.block_inv {b : BlockFrame} {fs l : List Frame} (h : FramesSim (.block b :: fs) l) :
    ∃ b' gs, l = .block b' :: gs ∧ (b.root = b'.root ∧ b.lits = b'.lits ∧ b.queries = b'.queries ∧ b.funs = b'.funs) ∧
      FramesSim fs gs := by
  obtain ⟨g, gs, rfl, hg, hr⟩ := FramesSim.cons_inv h
  cases g with
  | block b' => exact ⟨b', gs, rfl, hg, hr⟩
  | value _ => exact hg.elim
  | params _ => exact hg.elim

theorem Pres.sim_root {α} {m : M α} (hm : Pres m) {st st' : St} {a : α} (h : m st = .ok (a, st')) :
    FramesSim st.frames st'.frames ∧ rootOfFrames st'.frames = rootOfFrames st.frames :=
  have hs := hm st a st' h
  ⟨hs, hs.root.symm⟩

/-- what `finish` in `resolveVariable` relies on, whatever defined the variable (a query or a function call) -/
theorem Pres.block_top {α} {m : M α} (hm : Pres m) {st st' : St} {a : α} {b : BlockFrame} {rest : List Frame}
    (hf : st.frames = .block b :: rest) (h : m st = .ok (a, st')) : ∃ b' rest', st'.frames = .block b' :: rest' :=
  let ⟨b', rest', e, _⟩ := FramesSim.block_inv (hf ▸ hm st a st' h)
  ⟨b', rest', e⟩

theorem extractVariables_root (lets : List LetExpr) (root : PV) : (extractVariables lets root).root = root := by
  unfold extractVariables
  refine List.foldlRecOn lets _ (motive := fun b : BlockFrame => b.root = root) rfl fun b hb l _ => ?_
  cases l.value <;> exact hb

def Stable (st st' : St) : Prop := FramesSim st.frames st'.frames ∧ st'.file = st.file

theorem Stable.refl (st : St) : Stable st st := ⟨FramesSim.refl _, rfl⟩

theorem Stable.trans {a b c : St} (h1 : Stable a b) (h2 : Stable b c) : Stable a c :=
  ⟨h1.1.trans h2.1, h2.2.trans h1.2⟩

section
variable {pre : St → Prop} {B : PanicSite → Prop}

theorem triple_emit (k : RecKind) : Triple pre Stable B (emit k) := triple_modify fun _ => .refl _

/-- `if c then emit k₁ else emit k₂` followed by `pure a` (the `do` elaborator copies the `pure` into both branches) -/
theorem triple_emitIf [L : Law pre Stable] {α} {c : Prop} [Decidable c] {k₁ k₂ : RecKind} {a : α} :
    Triple pre Stable B (if c then do emit k₁; pure a else do emit k₂; pure a) :=
  triple_ite (triple_map (triple_emit _)) (triple_map (triple_emit _))

/-- `forIn` over `emit`: what `realBinaryOperation` and `binaryOperation` do with their records -/
theorem triple_emitAll [L : Law pre Stable] {γ} (l : List (RecKind × γ)) :
    Triple pre Stable B (forIn l PUnit.unit fun x _ => do emit x.1; pure (ForInStep.yield PUnit.unit)) :=
  triple_forIn (fun _ _ => triple_map (triple_emit _)) _ _

theorem triple_addCaptureKey (name : Str) (key : PV) : Triple pre Stable B (addCaptureKey name key) := by
  refine triple_modify fun st => ?_
  split
  · rename_i b innerRev hrev
    -- the root scope is looked up, and put back, at the head of the reversed stack
    refine ⟨?_, rfl⟩
    rw [← List.reverse_reverse st.frames, hrev]
    exact FramesSim.reverse ⟨⟨rfl, rfl, rfl, rfl⟩, .refl _⟩
  · exact .refl _

theorem triple_withRec {α} {mk : α → RecKind} {m : M α} (hpre : ∀ st, pre st → pre { st with recs := [] })
    (hm : Triple pre Stable B m) : Triple pre Stable B (withRec mk m) := by
  refine ⟨fun st hst => ?_⟩
  have h := hm.sat _ (hpre st hst)
  refine .intro (fun (a, st') e => ?_) fun _ e => h.of_panic (withRec_panic e)
  obtain ⟨st'', hb, rfl⟩ := withRec_ok e
  exact (h.of_ok hb :)  -- `Stable` does not read the records

theorem triple_pushPop {α} {f : Frame} {m : M α}
    (hpre : ∀ st, pre st → pre { st with frames := f :: st.frames }) (hm : Triple pre Stable B m) :
    Triple pre Stable B (do pushFrame f; let r ← m; popFrame; pure r) := by
  refine ⟨fun st hst => ?_⟩
  have h := hm.sat _ (hpre st hst)
  simp only [bind_run, pushFrame_run]
  sat_bind h
  next e => exact ⟨(h.of_ok e).1.tail, (h.of_ok e).2⟩

/-- `triple_pushPop` followed by a continuation (the shape `evalGeneralBlock` and `evalParamCall` have) -/
theorem triple_pushPopK [L : Law pre Stable] {α β} {f : Frame} {m : M α} {k : α → M β}
    (hpre : ∀ st, pre st → pre { st with frames := f :: st.frames }) (hm : Triple pre Stable B m)
    (hk : ∀ a, Triple pre Stable B (k a)) : Triple pre Stable B (do pushFrame f; let r ← m; popFrame; k r) := by
  have e : (do pushFrame f; let r ← m; popFrame; k r) = ((do pushFrame f; let r ← m; popFrame; pure r) >>= k) := by
    simp only [bind_assoc, pure_bind]
  rw [e]
  exact triple_bind (triple_pushPop hpre hm) hk

end

end Guard
