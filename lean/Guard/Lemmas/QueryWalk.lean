import Guard.Lemmas.Monad
/-
  Guard.Lemmas.QueryWalk — the code of `queryRetrieval` and of `checkAndDelegate`, followed once for any
  `Triple pre R B`: the hypotheses are the same triple for everything the function calls, and `B` at the two panic sites.
-/
namespace Guard

section
variable {pre : St → Prop} {R : St → St → Prop} {B : PanicSite → Prop} [L : Law pre R]

/- Here and in the walks over the other functions (NoPanic, ConsEval, C10): `rw [f]` / `unfold f` (unlike
   `simp only [f]`) keeps the join point `have __do_jp := fun x => rest; ..` that the `do` elaborator makes for the code
   after a `match` / `if`; `extract_lets` names it, so `rest` is treated once and not once per arm. -/
theorem triple_queryRetrieval {env : Env} {fuel qi : Nat} {query : List QueryPart} {current : PV} {conv : Option Nat}
    (hscope : ∀ (v : PV) {m : M (List QR)}, Triple pre R B m → Triple pre R B (withValueScope v m))
    (hkey : ∀ n k, Triple pre R B (addCaptureKey n k))
    (hrvar : ∀ n, Triple pre R B (resolveVariable env fuel n))
    (hhead : ∀ i v, i ≠ 0 → Triple pre R B (queryRetrieval env fuel i query v conv))
    (hnext : ∀ v c, Triple pre R B (queryRetrieval env fuel (qi + 1) query v c))
    (hacc : ∀ els, Triple pre R B (accumulate env fuel current qi query els conv))
    (hfilter : ∀ n cnf, query[qi]? = some (.filter n cnf) → (qi = 0 → B .filterFirst) ∧
      (∀ n' k v, Triple pre R B (checkAndDelegate env fuel cnf n' (qi + 1) query k v conv)) ∧
      ∀ v, Triple pre R B (withRec RecKind.filter (withValueScope v (evalCnf env fuel cnf))))
    (hkeys : ∀ n op opNot withV, query[qi]? = some (.mapKeyFilter n op opNot withV) → B .mapKeyMissing ∧
      (∀ q a, withV = .access q a → Triple pre R B (queryRetrieval env fuel 0 q current conv)) ∧
      (∀ f ps, withV = .func f ps → Triple pre R B (resolveFunction env fuel f ps)) ∧
      ∀ lhs rhs, Triple pre R B (withRec (fun rs : List (QR × Status) => RecKind.filter (bodyStatus (rs.map (·.2))))
        (realBinaryOperation env lhs rhs op opNot none))) :
    Triple pre R B (queryRetrieval env (fuel + 1) qi query current conv) := by
  rw [queryRetrieval]
  split
  · exact triple_pure _
  next part hq =>
  refine triple_ite ?_ ?_
  · -- variable head
    refine triple_bind (hrvar _) fun retrieved => triple_flatMapM fun each => ?_
    split
    · exact triple_pure _
    all_goals
      refine triple_ite (hscope _ (hhead _ _ fun h => ?_)) (triple_pure _)
      split at h <;> cases h
  split
  · exact hnext _ _  -- `.this`
  next k =>  -- `.key k`
    split
    · split
      · split <;> first | exact hnext _ _ | exact triple_pure _
      · exact triple_pure _
    · split
      · refine triple_ite ?_ ?_
        · refine triple_bind (hrvar _) fun keys => ?_
          dsimp only  -- inline `keysSel`
          split
          · rename_i act h  -- `keysSel = .error act`
            split at h
            iterate 3 cases h
            · split at h <;> cases h
              exact triple_pure _
            · cases h
              exact triple_throwErr _
          · refine triple_flatMapM fun eachKey => ?_
            split
            · exact triple_pure _
            all_goals
              split
              · exact triple_lookup (hnext · _)
              · refine triple_flatMapM fun ek => ?_
                split
                · exact triple_lookup (hnext · _)
                · exact triple_throwErr _
              · exact triple_throwErr _
        · split
          · exact hnext _ _
          · split
            · exact triple_lookup (hnext · _)
            · split
              · exact triple_lookup (hnext · _)
              · exact triple_pure _
      · exact triple_pure _
  next i =>  -- `.index i`
    split
    · split <;> first | exact hnext _ _ | exact triple_pure _
    · exact triple_pure _
  next name =>  -- `.allIndices name`
    split
    · exact hacc _
    · split
      · exact hnext _ _
      · exact triple_accumulateMap hscope fun _ _ => triple_bind (hkey _ _) fun _ => hnext _ _
    · exact hnext _ _
  next name =>  -- `.allValues name`
    split
    · exact hacc _
    · refine triple_accumulateMap hscope fun _ _ => ?_
      split
      · exact triple_bind (hkey _ _) fun _ => hnext _ _
      · exact hnext _ _
    · exact hnext _ _
  next name cnf =>  -- `.filter name cnf`
    obtain ⟨hfirst, hcad, hcnf⟩ := hfilter name cnf hq
    split
    · refine triple_dite (fun h => triple_throwPanic (hfirst (eq_of_beq h))) fun _ => ?_
      split
      · exact triple_ite (triple_accumulateMap hscope fun _ _ => hcad _ _ _) (triple_pure _)
      · exact hscope _ (hcad _ _ _)
    · refine triple_flatMapM fun _ => triple_bind (hcnf _) fun _ => ?_
      split <;> first | exact hnext _ _ | exact triple_pure _
    · refine triple_dite (fun h => triple_throwPanic (hfirst (eq_of_beq h))) fun _ => ?_
      split
      · refine triple_bind (hcnf _) fun _ => ?_
        split <;> first | exact hnext _ _ | exact triple_pure _
      · exact triple_pure _
  next name op opNot withV =>  -- `.mapKeyFilter name op opNot withV`
    obtain ⟨hmiss, hsub, hfun, hcmp⟩ := hkeys name op opNot withV hq
    split
    · -- `withV` only decides where `rhs` comes from; what follows is the join point `jp`
      extract_lets lhs jp
      have hjp : ∀ rhs, Triple pre R B (jp rhs) := by
        refine fun rhs => triple_bind (hcmp _ rhs) fun results =>
          triple_bind (triple_filterMapM (fun x => ?_) _) fun selected => triple_flatMapM fun each => ?_
        · split  -- the pair `(q, s)`
          split
          · split
            · split <;> first | exact triple_pure _ | exact triple_throwPanic hmiss
            · exact triple_pure _
          all_goals exact triple_pure _
        · split <;> first | exact hnext _ _ | exact triple_pure _
      cases withV with
      | value v => exact triple_bind (triple_pure _) hjp
      | access q a => exact triple_bind (hsub q a rfl) hjp
      | func n ps => exact triple_bind (hfun n ps rfl) hjp
    · exact triple_pure _

theorem triple_checkAndDelegate {env : Env} {fuel : Nat} {cnf : Cnf} {name : Option Str} {index : Nat}
    {query : List QueryPart} {key value : PV} {conv : Option Nat}
    (hcnf : Triple pre R B (withRec RecKind.filter (evalCnf env fuel cnf))) (hkey : ∀ n, Triple pre R B (addCaptureKey n key))
    (hqr : Triple pre R B (queryRetrieval env fuel index query value conv)) :
    Triple pre R B (checkAndDelegate env (fuel + 1) cnf name index query key value conv) := by
  unfold checkAndDelegate
  refine triple_bind hcnf fun status => ?_
  extract_lets -underBinder k
  have hk : ∀ u, Triple pre R B (k u) := fun _ => by
    simp only [k]; split
    · exact hqr
    · exact triple_pure _
  split
  · exact triple_ite (triple_bind (hkey _) hk) (hk ())
  · exact hk ()

end

end Guard
