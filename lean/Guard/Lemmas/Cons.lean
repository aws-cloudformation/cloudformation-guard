import Guard.Judge.C02
import Guard.Lemmas.Monad
/-
  Guard.Lemmas.Cons — towards: every record tree the evaluator builds is `Consistent`.
  `Inv m P`: whenever `m` succeeds it pushes the records `ps` (in chronological order) on top of the caller's,
  all of them consistent trees, and `P result ps` holds.
  Every post-condition of `AllInv`, except that of `evalRule` (which names the one record it pushes), reads the line records only
  (`LineOnly`): what a parent record is asked to explain are its children other than `Filter` records, so an action
  that pushes only filter records (`InvF`: all of query evaluation) can run before or after another without changing
  what that one establishes.
-/
namespace Guard

def Inv {α} (m : M α) (P : α → List Rec → Prop) : Prop :=
  ∀ st a st', m st = .ok (a, st') → ∃ ps, st'.recs = ps.reverse ++ st.recs ∧ ConsistentList ps = true ∧ P a ps

theorem consList_append : ∀ (a b : List Rec), ConsistentList (a ++ b) = (ConsistentList a && ConsistentList b)
  | [], b => by simp [ConsistentList]
  | r :: a, b => by simp [ConsistentList, consList_append a b, Bool.and_assoc]

theorem consList_flatten : ∀ (l : List (List Rec)), (∀ x ∈ l, ConsistentList x = true) → ConsistentList l.flatten = true
  | [], _ => rfl
  | x :: l, h => by
    simp only [List.flatten_cons, consList_append, Bool.and_eq_true]
    exact ⟨h x (by simp), consList_flatten l fun y hy => h y (List.mem_cons_of_mem _ hy)⟩

theorem lineRecs_append (a b : List Rec) : lineRecs (a ++ b) = lineRecs a ++ lineRecs b := by
  simp [lineRecs]

theorem forall_lineRecs_append {C : Rec → Prop} {a b : List Rec} (ha : ∀ r ∈ lineRecs a, C r) (hb : ∀ r ∈ lineRecs b, C r) :
    ∀ r ∈ lineRecs (a ++ b), C r := by
  rw [lineRecs_append]; exact List.forall_mem_append.mpr ⟨ha, hb⟩

theorem inv_pure {α} {P : α → List Rec → Prop} (a : α) (h : P a []) : Inv (pure a : M α) P := by
  intro st b st' hh
  obtain ⟨rfl, rfl⟩ := M.pure_ok hh
  exact ⟨[], rfl, rfl, h⟩

theorem inv_bind {α β} {m : M α} {f : α → M β} {P1 : α → List Rec → Prop} {P2 : α → β → List Rec → Prop}
    {P : β → List Rec → Prop} (hm : Inv m P1) (hf : ∀ a, Inv (f a) (P2 a))
    (hc : ∀ a ps1 b ps2, P1 a ps1 → P2 a b ps2 → P b (ps1 ++ ps2)) : Inv (m >>= f) P := by
  intro st b st' h
  obtain ⟨a, st₁, h1, h2⟩ := M.bind_ok h
  obtain ⟨ps1, e1, c1, p1⟩ := hm st a st₁ h1
  obtain ⟨ps2, e2, c2, p2⟩ := hf a st₁ b st' h2
  refine ⟨ps1 ++ ps2, ?_, ?_, hc a ps1 b ps2 p1 p2⟩
  · rw [e2, e1, List.reverse_append, List.append_assoc]
  · rw [consList_append, c1, c2]; rfl

theorem inv_map {α β} {m : M α} {g : α → β} {P1 : α → List Rec → Prop} {P : β → List Rec → Prop}
    (hm : Inv m P1) (h : ∀ a ps, P1 a ps → P (g a) ps) : Inv (do let a ← m; pure (g a)) P :=
  inv_bind hm (fun a => inv_pure (P := fun b ps => b = g a ∧ ps = []) _ ⟨rfl, rfl⟩)
    fun a ps1 b ps2 h1 ⟨hb, hp⟩ => by rw [hb, hp, List.append_nil]; exact h a ps1 h1

theorem inv_weaken {α} {m : M α} {P Q : α → List Rec → Prop} (hm : Inv m P) (h : ∀ a ps, P a ps → Q a ps) :
    Inv m Q := by
  intro st a st' hh
  obtain ⟨ps, e, c, p⟩ := hm st a st' hh
  exact ⟨ps, e, c, h a ps p⟩

/-- a lemma, not `split`: splitting an `if` inside a large action is slow to check -/
theorem inv_ite {α} {c : Prop} [Decidable c] {t e : M α} {P : α → List Rec → Prop} (ht : Inv t P) (he : Inv e P) :
    Inv (if c then t else e) P := by
  split <;> assumption

theorem inv_fail {α} {P : α → List Rec → Prop} {m : M α} (h : ∀ st a st', m st ≠ .ok (a, st')) : Inv m P := by
  intro st a st' hh; exact absurd hh (h st a st')

theorem inv_throwErr {α} {P : α → List Rec → Prop} (e : ErrKind) : Inv (throwErr e : M α) P := inv_fail fun _ _ _ => nofun
theorem inv_outOfFuel {α} {P : α → List Rec → Prop} : Inv (outOfFuel : M α) P := inv_fail fun _ _ _ => nofun

/-- a pure computation first: what follows may use what it returned -/
theorem inv_liftO_bind {α β} {o : Outcome α} {f : α → M β} {Q : α → Prop} {P : β → List Rec → Prop}
    (ho : o.Sat (fun _ => True) Q) (hf : ∀ a, Q a → Inv (f a) P) : Inv (liftO o >>= f) P := by
  intro st b st' h
  obtain ⟨a, st₁, h1, h2⟩ := M.bind_ok h
  obtain ⟨e, rfl⟩ := liftO_ok h1
  exact hf a (ho.of_ok e) st₁ b st' h2

theorem inv_mapM {α β} {f : α → M β} {P : α → β → List Rec → Prop} {Q : List α → List β → List Rec → Prop}
    (hf : ∀ a, Inv (f a) (P a)) (nil : Q [] [] [])
    (cons : ∀ a l b bs ps1 ps2, P a b ps1 → Q l bs ps2 → Q (a :: l) (b :: bs) (ps1 ++ ps2)) :
    ∀ l, Inv (l.mapM f) (Q l)
  | [] => by rw [List.mapM_nil]; exact inv_pure _ nil
  | a :: l => by
    rw [List.mapM_cons]
    exact inv_bind (hf a) (fun b => inv_map (g := fun bs => b :: bs) (P := fun r ps => ∃ bs, r = b :: bs ∧ Q l bs ps)
        (inv_mapM hf nil cons l) fun bs ps h => ⟨bs, rfl, h⟩)
      fun b ps1 _ ps2 h1 ⟨bs, e, h2⟩ => e ▸ cons a l b bs ps1 ps2 h1 h2

/-- `withRec`: the body's records become the children of ONE new record -/
theorem inv_withRec {α} {mk : α → RecKind} {m : M α} {P1 P : α → List Rec → Prop} (hm : Inv m P1)
    (h : ∀ a ps, P1 a ps → nodeOk (mk a) ps = true ∧ P a [Rec.node (mk a) ps]) : Inv (withRec mk m) P := by
  intro st a st' hh
  obtain ⟨st'', hb, e⟩ := withRec_ok hh
  obtain ⟨ps, e1, c1, p1⟩ := hm _ a st'' hb
  simp only [List.append_nil] at e1
  obtain ⟨hn, hp⟩ := h a ps p1
  refine ⟨[Rec.node (mk a) ps], ?_, ?_, hp⟩
  · rw [e, e1]; simp
  · simp [ConsistentList, Consistent, hn, c1]

theorem inv_withRec1 {α} {mk : α → RecKind} {m : M α} (hm : Inv m fun a ps => nodeOk (mk a) ps = true) :
    Inv (withRec mk m) fun a ps => ∃ ch, ps = [Rec.node (mk a) ch] :=
  inv_withRec hm fun _ ps h => ⟨h, ps, rfl⟩

theorem inv_emit {P : Unit → List Rec → Prop} (k : RecKind) (hk : nodeOk k [] = true) (hp : P () [Rec.node k []]) : Inv (emit k) P := by
  intro st a st' hh
  cases hh
  exact ⟨[Rec.node k []], rfl, by simp [ConsistentList, Consistent, hk], hp⟩

theorem inv_framesOnly {α} {m : M α} {P : α → List Rec → Prop} {g : St → St} (hg : ∀ st, (g st).recs = st.recs)
    (hm : Inv m P) : Inv (fun st => m (g st)) P := by
  intro st a st' hh
  obtain ⟨ps, e, c, p⟩ := hm (g st) a st' hh
  exact ⟨ps, by rw [e, hg], c, p⟩

def OnlyF (ps : List Rec) : Prop := lineRecs ps = []

def InvF {α} (m : M α) : Prop := Inv m (fun _ ps => OnlyF ps)

theorem onlyF_append {a b : List Rec} (ha : OnlyF a) (hb : OnlyF b) : OnlyF (a ++ b) := by
  unfold OnlyF at *; rw [lineRecs_append, ha, hb]; rfl

def RF (st st' : St) : Prop := ∃ ps, st'.recs = ps.reverse ++ st.recs ∧ ConsistentList ps = true ∧ OnlyF ps

/-- `InvF m` is `Triple ⊤ RF ⊤ m`, so the rules of `Triple` apply to the query level -/
instance invfLaw : Law (fun _ => True) RF where
  refl _ := ⟨[], rfl, rfl, rfl⟩
  trans := fun ⟨p1, e1, c1, f1⟩ ⟨p2, e2, c2, f2⟩ =>
    ⟨p1 ++ p2, by rw [e2, e1, List.reverse_append, List.append_assoc], by rw [consList_append, c1, c2]; rfl, onlyF_append f1 f2⟩
  keeps _ _ := trivial

theorem InvF.triple {α} {m : M α} (h : InvF m) : Triple (fun _ => True) RF (fun _ => True) m :=
  ⟨fun st _ => .intro (fun _ e => h st _ _ e) fun _ _ => trivial⟩

theorem InvF.of_triple {α} {m : M α} (h : Triple (fun _ => True) RF (fun _ => True) m) : InvF m :=
  fun st _ _ e => (h.sat st trivial).of_ok e

def LineOnly {α} (P : α → List Rec → Prop) : Prop := ∀ a ps ps', lineRecs ps = lineRecs ps' → P a ps → P a ps'

theorem lineOnly_onlyF {α} : LineOnly fun (_ : α) ps => OnlyF ps := fun _ _ _ h p => h.symm.trans p

theorem lineRecs_onlyF_left {a b : List Rec} (h : OnlyF a) : lineRecs (a ++ b) = lineRecs b := by
  rw [lineRecs_append, h, List.nil_append]

theorem lineRecs_onlyF_right {a b : List Rec} (h : OnlyF b) : lineRecs (a ++ b) = lineRecs a := by
  rw [lineRecs_append, h, List.append_nil]

/-- filter records in front change nothing -/
theorem inv_bindF {α β} {m : M α} {f : α → M β} {P : β → List Rec → Prop} (hP : LineOnly P)
    (hm : InvF m) (hf : ∀ a, Inv (f a) P) : Inv (m >>= f) P :=
  inv_bind hm hf fun _ _ b _ h1 h2 => hP b _ _ (lineRecs_onlyF_left h1).symm h2

/-- filter records behind change nothing -/
theorem inv_thenF {α β} {m : M α} {f : α → M β} {P : α → List Rec → Prop} (hP : LineOnly P)
    (hm : Inv m P) (hf : ∀ a, InvF (f a)) : Inv (do let a ← m; let _ ← f a; pure a) P :=
  inv_bind hm (fun a => inv_map (g := fun _ => a) (P := fun b ps => b = a ∧ OnlyF ps) (hf a) fun _ _ h => ⟨rfl, h⟩)
    fun a _ _ _ h1 ⟨hb, h2⟩ => hb ▸ hP a _ _ (lineRecs_onlyF_right h2).symm h1

theorem invf_pure {α} (a : α) : InvF (pure a : M α) := inv_pure a rfl
theorem invf_bind {α β} {m : M α} {f : α → M β} (hm : InvF m) (hf : ∀ a, InvF (f a)) : InvF (m >>= f) :=
  inv_bindF lineOnly_onlyF hm hf
theorem invf_outOfFuel {α} : InvF (outOfFuel : M α) := inv_outOfFuel

theorem invf_of_quiet {α} {m : M α} (h : ∀ st a st', m st = .ok (a, st') → st'.recs = st.recs) : InvF m :=
  fun st a st' hh => ⟨[], h st a st' hh, rfl, rfl⟩

theorem invf_liftO {α} (o : Outcome α) : InvF (liftO o) := invf_of_quiet fun _ _ _ h => (liftO_ok h).2 ▸ rfl

theorem invf_get : InvF (get : M St) := invf_of_quiet fun _ _ _ h => by cases h; rfl

theorem invf_modify {f : St → St} (hf : ∀ st, (f st).recs = st.recs) : InvF (modify f : M Unit) :=
  invf_of_quiet fun st _ _ h => by cases h; exact hf st

theorem invf_currentRoot : InvF currentRoot := invf_of_quiet fun st _ _ h => by
  unfold currentRoot at h
  split at h <;> cases h
  rfl

theorem invf_pushFrame (f : Frame) : InvF (pushFrame f) := invf_modify fun _ => rfl
theorem invf_popFrame : InvF popFrame := invf_modify fun _ => rfl

theorem invf_addCaptureKey (name : Str) (key : PV) : InvF (addCaptureKey name key) := by
  apply invf_modify; intro st; split <;> rfl

theorem inv_withValueScope {α} {root : PV} {m : M α} {P : α → List Rec → Prop} (hP : LineOnly P) (hm : Inv m P) :
    Inv (withValueScope root m) P :=
  inv_bindF hP (invf_pushFrame _) fun _ => inv_thenF hP hm fun _ => invf_popFrame

theorem invf_withValueScope {α} {root : PV} {m : M α} (hm : InvF m) : InvF (withValueScope root m) :=
  inv_withValueScope lineOnly_onlyF hm

theorem invf_mapM {α β} {f : α → M β} (hf : ∀ a, InvF (f a)) : ∀ (l : List α), InvF (l.mapM f) :=
  inv_mapM (Q := fun _ _ ps => OnlyF ps) hf rfl fun _ _ _ _ _ _ => onlyF_append

def Lines (K : Rec → Bool) (sts : List Status) (ps : List Rec) : Prop :=
  (lineRecs ps).all K = true ∧ (lineRecs ps).map Rec.status = sts

theorem lineOnly_lines {α} {K : Rec → Bool} (g : α → List Status) : LineOnly fun a ps => Lines K (g a) ps :=
  fun _ _ _ h => by simp only [Lines, h, imp_self]

theorem lines_append {K : Rec → Bool} {s1 s2 : List Status} {p1 p2 : List Rec} (h1 : Lines K s1 p1) (h2 : Lines K s2 p2) :
    Lines K (s1 ++ s2) (p1 ++ p2) := by
  unfold Lines
  rw [lineRecs_append, List.all_append, List.map_append, h1.1, h1.2, h2.1, h2.2]
  exact ⟨rfl, rfl⟩

/-- what a record asks of its lines when they must be of one kind and aggregate to its status (a `FileCheck` of its
    `RuleCheck`s, a `TypeCheck` of its `TypeBlock`s) -/
theorem Lines.body {K : Rec → Bool} {sts : List Status} {ps : List Rec} (h : Lines K sts ps) :
    ((lineRecs ps).all K && bodyStatus sts == bodyStatus ((lineRecs ps).map Rec.status)) = true := by
  rw [h.1, h.2]; exact beq_self_eq_true _

theorem inv_mapM_lines {α β} {K : Rec → Bool} {f : α → M β} {g : β → Status}
    (hf : ∀ a, Inv (f a) fun b ps => Lines K [g b] ps) : ∀ l : List α, Inv (l.mapM f) fun bs ps => Lines K (bs.map g) ps :=
  inv_mapM (Q := fun _ bs ps => Lines K (bs.map g) ps) hf ⟨rfl, rfl⟩ fun _ _ _ _ _ _ => lines_append

/-- `sts` picks, for every line record, one of the statuses that record may contribute -/
def Explains : List Rec → List Status → Prop
  | [], [] => True
  | L :: ls, s :: ss => s ∈ lineOptions L ∧ Explains ls ss
  | _, _ => False

theorem Explains.ind {motive : List Rec → List Status → Prop} (nil : motive [] [])
    (cons : ∀ {L s ls ss}, s ∈ lineOptions L → Explains ls ss → motive ls ss → motive (L :: ls) (s :: ss)) :
    ∀ {ls : List Rec} {sts : List Status}, Explains ls sts → motive ls sts
  | [], [], _ => nil
  | _ :: _, _ :: _, ⟨h1, h2⟩ => cons h1 h2 (Explains.ind nil cons h2)
  | [], _ :: _, h => h.elim
  | _ :: _, [], h => h.elim

theorem explains_append {l1 l2 : List Rec} {s1 s2 : List Status} (h1 : Explains l1 s1) (h2 : Explains l2 s2) :
    Explains (l1 ++ l2) (s1 ++ s2) :=
  h1.ind (motive := fun l1 s1 => Explains (l1 ++ l2) (s1 ++ s2)) h2 fun h _ ih => ⟨h, ih⟩

theorem explains_choices {ls : List Rec} {sts : List Status} (h : Explains ls sts) : sts ∈ choices (ls.map lineOptions) :=
  h.ind (motive := fun ls sts => sts ∈ choices (ls.map lineOptions)) (List.mem_singleton.mpr rfl) fun h1 _ ih => by
    simp only [List.map_cons, choices, List.mem_flatMap, List.mem_map]
    exact ⟨_, ih, _, h1, rfl⟩

theorem explains_length {ls : List Rec} {sts : List Status} (h : Explains ls sts) : ls.length = sts.length :=
  h.ind (motive := fun ls sts => ls.length = sts.length) rfl fun _ _ ih => congrArg (· + 1) ih

theorem explains_status : ∀ ls : List Rec, Explains ls (ls.map Rec.status)
  | [] => trivial
  | .node k _ :: ls => ⟨by cases k <;> exact .head _, explains_status ls⟩

theorem explains_nonempty {ls : List Rec} {sts : List Status} (h : Explains ls sts) (hs : sts ≠ []) : ls ≠ [] :=
  fun hl => hs (List.eq_nil_of_length_eq_zero (by rw [← explains_length h, hl]; rfl))

theorem aggOk_of_explains {agg : List Status → Status} {s : Status} {ls : List Rec} {sts : List Status}
    (h : Explains ls sts) (hs : s = agg sts) : aggOk agg s ls = true := by
  unfold aggOk
  rw [List.any_eq_true]
  exact ⟨sts, explains_choices h, by rw [hs]; simp⟩

/-- the filter record of a query step: its status is explained by the lines of its condition -/
theorem invf_filter {α} {s : α → Status} {m : M α} (hm : Inv m fun a ps => aggOk bodyStatus (s a) (lineRecs ps) = true) :
    InvF (withRec (fun a => RecKind.filter (s a)) m) :=
  inv_withRec hm fun _ _ h => ⟨h, rfl⟩

end Guard
